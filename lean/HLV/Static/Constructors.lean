/-
  Table facts that both C07 (the compile-time half of duplicate detection) and C15 state:
  collections can be built or changed without the duplicate test only from inputs that own their
  locks. Evaluated here once.
-/
import HLV.Static.Rules
namespace HLV.Static

theorem uncheckedConstructors_nil : c15_uncheckedConstructors = [] := by decide +kernel

theorem ownedLockable_nil : c15_ownedLockable = [] := by decide +kernel

theorem mutableAccessToChecked_nil : c15_mutableAccessToChecked = [] := by decide +kernel

end HLV.Static
