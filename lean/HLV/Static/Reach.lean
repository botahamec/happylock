/-
  HLV.Static.Reach — how the "no blocking operation is reachable" rules are evaluated.

  `fnsReachingBlocking pred` runs one forward reachability per source function, each scanning the
  whole table once per name it meets. Its emptiness follows from a single set `P` of names that
  contains the callees of every source, is closed under the calls the traversal follows, and
  holds no blocking operation: whatever `reachF` returns from a subset of a closed set stays
  inside it (`fnsReachingBlocking_nil_of_closed`). `noneReaches` finds such a set as the complement
  of the names from which a blocking operation can be reached, grown backwards from `blockingOps`
  over the table — a handful of names, three passes over the table — so the evaluation follows
  `Generated/Facts.lean` when that is regenerated.
-/
import HLV.Static.Rules
namespace HLV.Static

variable {P : Nat → Prop}

/-- `P` is closed under the calls `reachStepF` follows -/
def ClosedF (P : Nat → Prop) : Prop :=
  ∀ f ∈ allFns, P f.name → followNames.contains f.name = true → ∀ c ∈ f.callees, P c

theorem reachStepF_subset {s : List Nat} (hP : ClosedF P) (hs : ∀ c ∈ s, P c) :
    ∀ c ∈ reachStepF s, P c := by
  refine List.foldlRecOn (motive := fun acc => ∀ c ∈ acc, P c) s _ hs fun acc hacc n hn => ?_
  split
  · rename_i hf
    refine List.foldlRecOn (motive := fun acc => ∀ c ∈ acc, P c) _ _ hacc fun a ha c hc => ?_
    split
    · exact ha
    · simp only [calleesOf, List.mem_flatMap, List.mem_filter, beq_iff_eq] at hc
      obtain ⟨f, ⟨hfm, rfl⟩, hc⟩ := hc
      exact List.forall_mem_cons.2 ⟨hP f hfm (hs _ hn) hf c hc, ha⟩
  · exact hacc

theorem reachF_subset (hP : ClosedF P) (k : Nat) (s : List Nat) (hs : ∀ c ∈ s, P c) :
    ∀ c ∈ reachF k s, P c := by
  fun_induction reachF k s with
  | case1 => exact hs
  | case2 => exact hs
  | case3 k s s' _ ih => exact ih (reachStepF_subset hP hs)

theorem fnsReachingBlocking_nil_of_closed {pred : FnDef → Bool} (hP : ClosedF P)
    (hsrc : ∀ f ∈ allFns, (!f.testOnly && pred f) = true → ∀ c ∈ f.callees, P c)
    (hsafe : ∀ c ∈ blockingOps, ¬ P c) : fnsReachingBlocking pred = [] := by
  refine List.map_eq_nil_iff.2 (List.filter_eq_nil_iff.2 fun f hf hany => ?_)
  obtain ⟨hf, hp⟩ := List.mem_filter.1 hf
  obtain ⟨c, hc, hb⟩ := List.any_eq_true.1 hany
  -- 8 is the depth to which the rule `fnsReachingBlocking` follows calls
  exact hsafe c (List.contains_iff_mem.1 hb) (reachF_subset hP 8 _ (hsrc f hf hp) c hc)

/-- followed functions not yet in `B` that call into `B` -/
def frontier (B : List Nat) : List Nat :=
  (allFns.filter fun f =>
    f.callees.any B.contains && !B.contains f.name && followNames.contains f.name).map (·.name)

/-- Grow `B`, the names from which a blocking operation can be reached, until a round adds nothing
(`fuel` rounds at most, that last one included: two on the present table, the two facts allow 16);
then no source may call into it. -/
def noneReaches (pred : FnDef → Bool) : Nat → List Nat → Bool
  | 0, _ => false
  | fuel + 1, B =>
    match frontier B with
    -- `f.callees.any B.contains` first: the kernel has it from the empty frontier, the source test is new work
    | [] => allFns.all fun f => !f.callees.any B.contains || !(!f.testOnly && pred f)
    | new => noneReaches pred fuel (new ++ B)

theorem fnsReachingBlocking_nil {pred : FnDef → Bool} (fuel : Nat) (B : List Nat)
    (hB : ∀ c ∈ blockingOps, c ∈ B) (h : noneReaches pred fuel B = true) : fnsReachingBlocking pred = [] := by
  fun_induction noneReaches pred fuel B with
  | case1 => cases h
  | case2 fuel B hfr =>
    refine fnsReachingBlocking_nil_of_closed (P := fun c => ¬ B.contains c = true) ?_ ?_
      (fun c hc h => h (List.contains_iff_mem.2 (hB c hc)))
    · intro f hf hn hfol c hc hcB
      -- `f` would be in the frontier
      refine List.filter_eq_nil_iff.1 (List.map_eq_nil_iff.1 hfr) f hf ?_
      rw [List.any_eq_true.2 ⟨c, hc, hcB⟩, Bool.eq_false_iff.2 hn, hfol]
      rfl
    · intro f hf hsrc c hc
      have := List.all_eq_true.1 h f hf
      rw [hsrc, Bool.not_true, Bool.or_false, Bool.not_eq_true'] at this
      exact List.any_eq_false.1 this c hc
  | case3 fuel B _ ih => exact ih (fun c hc => List.mem_append_right _ (hB c hc)) h

end HLV.Static
