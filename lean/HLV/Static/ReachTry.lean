/-
  The table fact behind the static halves of C04 and C15: no try function reaches a blocking
  operation. In a module of its own so that it is evaluated once for both properties, and so
  that a change of the source that breaks it does not also fail the build of C17's fact.
-/
import HLV.Static.Reach
namespace HLV.Static

theorem tryReachesBlocking_nil : c04_tryReachesBlocking = [] :=
  fnsReachingBlocking_nil 16 blockingOps (fun _ h => h) (by decide +kernel)

end HLV.Static
