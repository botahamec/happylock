/-
  The table fact behind the static halves of C17 and C15: no non-acquiring function reaches a
  blocking operation (see `ReachTry.lean` for why it stands alone).
-/
import HLV.Static.Reach
namespace HLV.Static

theorem nonAcqReachesBlocking_nil : c17_nonAcqReachesBlocking = [] :=
  fnsReachingBlocking_nil 16 blockingOps (fun _ h => h) (by decide +kernel)

end HLV.Static
