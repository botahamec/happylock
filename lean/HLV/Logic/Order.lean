/-
  HLV.Logic.Order — ranks that the acquisition orders respect.

  Sorting collections take their units in address order (C08). An `OwnedLockCollection` is one
  indivisible unit of an enclosing sorting collection: it is sorted by the address of the collection
  object and its members are then taken in its own listing order. A rank function fits a shape
  (`FitOut`) when it is "unit address, then position inside the unit": `rank x / M` is the address
  of the unit `x` belongs to (its own address for a lock outside every owned group), and inside an
  owned group the ranks increase along the group's acquisition order. For such a rank every shape
  accepted by its checked constructors obeys the rank discipline (`shapeOK_rank`); with
  `Logic/Deadlock.lean` this gives deadlock freedom for programs that mix owned groups, nested in
  any way, into sorting collections. Shapes without owned groups are the case `M = 1`,
  rank = address (`shapeOK_addr`).
-/
import HLV.Logic.Shapes
namespace HLV

mutual
/-- no `OwnedLockCollection` anywhere inside: every unit seen by a collection is a leaf lock -/
def noOwned : Shape → Bool
  | .mutex _ => true
  | .rwlock _ => true
  | .seq ss => noOwnedL ss
  | .poisonable _ s => noOwned s
  | .boxed s => noOwned s
  | .refc s => noOwned s
  | .retry s => noOwned s
  | .owned _ _ => false
def noOwnedL : List Shape → Bool
  | [] => true
  | s :: ss => noOwned s && noOwnedL ss
end

mutual
/-- Constructor validity: every checked collection inside was accepted by `try_new`, i.e. no two
of the units it sees have the same address. -/
def Valid (W : World) : Shape → Prop
  | .mutex _ => True
  | .rwlock _ => True
  | .seq ss => ValidL W ss
  | .poisonable _ s => Valid W s
  | .boxed s => Valid W s ∧ ((getPtrs W s).map (·.addr)).Nodup
  | .refc s => Valid W s ∧ ((getPtrs W s).map (·.addr)).Nodup
  | .retry s => Valid W s ∧ ((getPtrs W s).map (·.addr)).Nodup
  | .owned _ s => Valid W s
def ValidL (W : World) : List Shape → Prop
  | [] => True
  | s :: ss => Valid W s ∧ ValidL W ss
end

/-- a `get_ptrs` entry that is a single leaf lock at that lock's address -/
def Ptr.IsLeaf (W : World) (p : Ptr) : Prop :=
  ∃ x, p.addr = W.addr x ∧ ∀ m, ∃ m', p.fp m = [(x, m')]

theorem getPtrs_leaves (W : World) (S : Shape) : noOwned S = true → ∀ p ∈ getPtrs W S, p.IsLeaf W := by
  induction S using Shape.rec
    (motive_2 := fun ss => noOwnedL ss = true → ∀ p ∈ getPtrsL W ss, p.IsLeaf W) with
  | mutex x | rwlock x => exact fun _ => List.forall_mem_singleton.2 ⟨x, rfl, fun _ => ⟨_, rfl⟩⟩
  | boxed s ih | refc s ih => exact fun h p hp => ih h p (sortPtrs_mem.1 hp)
  | owned => exact fun h => nomatch h
  | nil => rename_i hp; cases hp
  | cons s ss ih ihs =>
    rename_i h p hp
    simp only [noOwnedL, Bool.and_eq_true] at h
    exact (List.mem_append.1 hp).elim (ih h.1 p) (ihs h.2 p)
  | _ => assumption

theorem getPtrsL_leaves (W : World) : ∀ ss : List Shape, noOwnedL ss = true →
    ∀ p ∈ getPtrsL W ss, p.IsLeaf W :=
  fun ss => getPtrs_leaves W (.seq ss)

theorem ptrsOK_noOwned (ro : RankOpt) (W : World) (S : Shape) : noOwned S = true → PtrsOK ro W S := by
  induction S using Shape.rec (motive_2 := fun ss => noOwnedL ss = true → PtrsOKL ro W ss) with
  | mutex | rwlock => exact fun _ => trivial
  | nil => trivial
  | owned => exact fun h => nomatch h
  | cons s ss ih ihs =>
    rename_i h
    simp only [noOwnedL, Bool.and_eq_true] at h
    exact ⟨ih h.1, ihs h.2⟩
  | _ => assumption

theorem ptrsOKL_noOwned (ro : RankOpt) (W : World) : ∀ ss : List Shape, noOwnedL ss = true → PtrsOKL ro W ss :=
  fun ss => ptrsOK_noOwned ro W (.seq ss)

theorem sortPtrs_le (ps : List Ptr) : (sortPtrs ps).Pairwise fun p q => p.addr ≤ q.addr :=
  (List.pairwise_mergeSort (le := fun a b : Ptr => decide (a.addr ≤ b.addr))
    (fun _ _ _ h1 h2 => decide_eq_true (Nat.le_trans (of_decide_eq_true h1) (of_decide_eq_true h2)))
    (fun a b => by simpa using Nat.le_total a.addr b.addr) ps).imp of_decide_eq_true

/-- **The sorted list of a duplicate-free collection is strictly increasing in address**, for
any length and any listing order. -/
theorem sortPtrs_strict (ps : List Ptr) (hnd : (ps.map (·.addr)).Nodup) :
    (sortPtrs ps).Pairwise fun p q => p.addr < q.addr := by
  have hne : (sortPtrs ps).Pairwise fun p q => p.addr ≠ q.addr :=
    List.pairwise_map.1 (((sortPtrs_perm ps).map _).nodup_iff.2 hnd)
  exact (sortPtrs_le ps).imp₂ (fun _ _ => Nat.lt_of_le_of_ne) hne

/-- the address sequence of the sorted list depends on the units only, not on their listing (a
sorted list of numbers is determined by its elements) -/
theorem sortPtrs_addr_congr {ps ps' : List Ptr} (hp : ps.Perm ps') :
    (sortPtrs ps).map (·.addr) = (sortPtrs ps').map (·.addr) :=
  ((((sortPtrs_perm ps).trans hp).trans (sortPtrs_perm ps').symm).map _).eq_of_pairwise (le := (· ≤ ·))
    (fun _ _ _ _ => Nat.le_antisymm) (List.pairwise_map.2 (sortPtrs_le ps)) (List.pairwise_map.2 (sortPtrs_le ps'))

variable (W : World) (M : Nat) (rank : LockId → Nat)

mutual
/-- inside owned groups the ranks increase along the acquisition order of the group -/
def FitInside : Shape → Prop
  | .mutex _ => True
  | .rwlock _ => True
  | .seq ss => FitInsideL ss
  | .poisonable _ s => FitInside s
  | .boxed s => FitInside s
  | .refc s => FitInside s
  | .retry s => FitInside s
  | .owned _ s =>
    (∀ m, (((getPtrs W s).flatMap (·.fp m)).map fun k => rank k.1).Pairwise (· < ·)) ∧ FitInside s
def FitInsideL : List Shape → Prop
  | [] => True
  | s :: ss => FitInside s ∧ FitInsideL ss
end

mutual
/-- the rank is "address of the unit, then position in the unit" -/
def FitOut : Shape → Prop
  | .mutex x => rank x / M = W.addr x
  | .rwlock x => rank x / M = W.addr x
  | .seq ss => FitOutL ss
  | .poisonable _ s => FitOut s
  | .boxed s => FitOut s
  | .refc s => FitOut s
  | .retry s => FitOut s
  | .owned a s =>
    (∀ m, ∀ k ∈ (getPtrs W s).flatMap (·.fp m), rank k.1 / M = a) ∧ FitInside W rank (.owned a s)
def FitOutL : List Shape → Prop
  | [] => True
  | s :: ss => FitOut s ∧ FitOutL ss
end

variable {W M rank}

theorem fitInside_of_fitOut (S : Shape) : FitOut W M rank S → FitInside W rank S := by
  induction S using Shape.rec (motive_2 := fun ss => FitOutL W M rank ss → FitInsideL W rank ss) with
  | mutex | rwlock => exact fun _ => trivial
  | nil => trivial
  | owned a s _ => exact fun h => h.2
  | cons s ss ih ihs => rename_i h; exact ⟨ih h.1, ihs h.2⟩
  | _ => assumption

theorem fitInsideL_of_fitOutL : ∀ ss : List Shape, FitOutL W M rank ss → FitInsideL W rank ss :=
  fun ss => fitInside_of_fitOut (.seq ss)

theorem flat_incr_iff (m : Mode) (ps : List Ptr) :
    ((ps.flatMap (·.fp m)).map fun k => rank k.1).Pairwise (· < ·) ↔
      (∀ p ∈ ps, ((p.fp m).map fun k => rank k.1).Pairwise (· < ·)) ∧ Members.Chain (some rank) (ptrsM ps) m := by
  simp only [List.pairwise_map, List.pairwise_flatMap, Members.Chain, ptrsM]
  rfl

theorem ptrsOK_of_fitInside (S : Shape) : FitInside W rank S → PtrsOK (some rank) W S := by
  induction S using Shape.rec
    (motive_2 := fun ss => FitInsideL W rank ss → PtrsOKL (some rank) W ss) with
  | mutex | rwlock => exact fun _ => trivial
  | nil => trivial
  | owned a s ih => exact fun h => ⟨ih h.2, fun m => ((flat_incr_iff m _).1 (h.1 m)).2⟩
  | cons s ss ih ihs => rename_i h; exact ⟨ih h.1, ihs h.2⟩
  | _ => assumption

theorem ptrsOKL_of_fitInsideL : ∀ ss : List Shape, FitInsideL W rank ss → PtrsOKL (some rank) W ss :=
  fun ss => ptrsOK_of_fitInside (.seq ss)

/-- every unit `get_ptrs` hands out lies in one rank band: the band of its address -/
def UnitFit (W : World) (M : Nat) (rank : LockId → Nat) (ps : List Ptr) : Prop :=
  ∀ p ∈ ps, ∀ m, ∀ k ∈ p.fp m, rank k.1 / M = p.addr

theorem getPtrs_unitFit (S : Shape) : FitOut W M rank S → UnitFit W M rank (getPtrs W S) := by
  induction S using Shape.rec
    (motive_2 := fun ss => FitOutL W M rank ss → UnitFit W M rank (getPtrsL W ss)) with
  | mutex x | rwlock x => exact fun h => List.forall_mem_singleton.2 fun _ => List.forall_mem_singleton.2 h
  | owned a s _ => exact fun h => List.forall_mem_singleton.2 h.1
  | boxed s ih | refc s ih => exact fun h p hp => ih h p (sortPtrs_mem.1 hp)
  | nil => exact nofun
  | cons s ss ih ihs =>
    rename_i h
    exact List.forall_mem_append.2 ⟨ih h.1, ihs h.2⟩
  | _ => assumption

theorem getPtrsL_unitFit : ∀ ss : List Shape, FitOutL W M rank ss → UnitFit W M rank (getPtrsL W ss) :=
  fun ss => getPtrs_unitFit (.seq ss)

theorem sortPtrs_chain_units (ps : List Ptr) (hu : UnitFit W M rank ps)
    (hnd : (ps.map (·.addr)).Nodup) (m : Mode) :
    Members.Chain (some rank) (ptrsM (sortPtrs ps)) m := by
  -- with a rank, `Chain` says: every hold `x` of an earlier unit `p` ranks below every hold `y` of a later unit `q`
  refine List.pairwise_map.2 ((sortPtrs_strict ps hnd).imp_of_mem fun {p q} hp hq hlt x hx y hy => ?_)
  -- the rank bands are ordered like the addresses
  rw [← hu p (sortPtrs_mem.1 hp) m x hx, ← hu q (sortPtrs_mem.1 hq) m y hy] at hlt
  exact Nat.lt_of_div_lt_div hlt

/-- **Valid shapes with owned groups obey the rank discipline** for every rank that is "unit
address, then position inside the unit". -/
theorem shapeOK_rank : ∀ S : Shape, FitOut W M rank S → Valid W S → ShapeOK (some rank) W S
  | .mutex _, _, _ => trivial
  | .rwlock _, _, _ => trivial
  | .seq _, _, _ => trivial
  | .poisonable _ s, h, hv => shapeOK_rank s h hv
  | .boxed s, h, hv | .refc s, h, hv =>
    ⟨ptrsOK_of_fitInside s (fitInside_of_fitOut s h), sortPtrs_chain_units _ (getPtrs_unitFit s h) hv.2⟩
  | .retry s, h, _ => ptrsOK_of_fitInside s (fitInside_of_fitOut s h)
  | .owned a s, h, _ => ptrsOK_of_fitInside (.owned a s) h.2

/-- without owned groups every lock is its own unit: the rank only has to put it in the band of
its address -/
theorem fitOut_of_noOwned (hr : ∀ x, rank x / M = W.addr x) (S : Shape) : noOwned S = true → FitOut W M rank S := by
  induction S using Shape.rec (motive_2 := fun ss => noOwnedL ss = true → FitOutL W M rank ss) with
  | mutex x | rwlock x => exact fun _ => hr x
  | nil => trivial
  | owned => exact fun h => nomatch h
  | cons s ss ih ihs =>
    rename_i h
    simp only [noOwnedL, Bool.and_eq_true] at h
    exact ⟨ih h.1, ihs h.2⟩
  | _ => assumption

/-- **Valid flat shapes obey the rank discipline with rank = address** (the case `M = 1`). -/
theorem shapeOK_addr (W : World) (S : Shape) (h : noOwned S = true) (hv : Valid W S) :
    ShapeOK (some W.addr) W S :=
  shapeOK_rank S (fitOut_of_noOwned (M := 1) (fun _ => Nat.div_one _) S h) hv

end HLV
