/-
  HLV.Logic.Hold — the hold-discipline specification `HoldSpec n ro`, in which every theorem about
  what a thread holds is stated (C01–C05, C08, C09, C11, C12, C17).

  Ghost state: how many holds of each lock (per mode) the thread owns (`held`), holds whose
  release panicked (`stuck`: still locked, lock killed), how deeply the thread is inside APIs
  that must not block (`depth`), how many panic answers it has received (`panics`).
  `n` bounds the number of panic answers the environment may give (0 = fault-free,
  1 = one-shot fault, any `n` = persistent faults).
-/
import HLV.Logic.Wp
import HLV.Model.Api
namespace HLV

abbrev Held := LockId → Mode → Nat

abbrev Fp := List (LockId × Mode)

def Held.empty : Held := fun _ _ => 0
def Held.plus (h : Held) (l : Fp) : Held := fun y m' => h y m' + l.count (y, m')
def Held.minus (h : Held) (l : Fp) : Held := fun y m' => h y m' - l.count (y, m')
def Held.add (h : Held) (x : LockId) (m : Mode) : Held := h.plus [(x, m)]
def Held.sub (h : Held) (x : LockId) (m : Mode) : Held := h.minus [(x, m)]
def Held.Covers (h : Held) (l : Fp) : Prop := ∀ y m', l.count (y, m') ≤ h y m'

theorem Held.plus_nil (h : Held) : h.plus [] = h := rfl
theorem Held.minus_nil (h : Held) : h.minus [] = h := rfl
theorem Held.plus_append (h : Held) (a b : Fp) : h.plus (a ++ b) = (h.plus a).plus b := by
  funext y m; simp only [Held.plus, List.count_append, Nat.add_assoc]
theorem Held.minus_append (h : Held) (a b : Fp) : h.minus (a ++ b) = (h.minus a).minus b := by
  funext y m; simp only [Held.minus, List.count_append, Nat.sub_add_eq]
theorem Held.minus_plus (h : Held) (a : Fp) : (h.plus a).minus a = h := by
  funext y m; exact Nat.add_sub_cancel _ _
theorem Held.plus_comm (h : Held) (a b : Fp) : (h.plus a).plus b = (h.plus b).plus a := by
  funext y m; exact Nat.add_right_comm _ _ _
theorem Held.plus_append_comm (h : Held) (a b : Fp) : h.plus (a ++ b) = h.plus (b ++ a) := by
  rw [Held.plus_append, Held.plus_append, Held.plus_comm]
theorem Held.covers_nil (h : Held) : h.Covers [] := by intro y m; simp
theorem Held.covers_plus (h : Held) (a : Fp) : (h.plus a).Covers a :=
  fun _ _ => Nat.le_add_left _ _
theorem Held.Covers.append {h : Held} {a b : Fp} (hc : h.Covers (a ++ b)) :
    h.Covers a ∧ (h.minus a).Covers b := by
  have key : ∀ y m, a.count (y, m) + b.count (y, m) ≤ h y m := fun y m => by
    rw [← List.count_append]
    exact hc y m
  exact ⟨fun y m => Nat.le_trans (Nat.le_add_right _ _) (key y m),
    fun y m => Nat.le_sub_of_add_le' (key y m)⟩
theorem Held.Covers.mem_pos {h : Held} {l : Fp} (hc : h.Covers l) {x : LockId} {m : Mode}
    (hm : (x, m) ∈ l) : 0 < h x m :=
  Nat.lt_of_lt_of_le (List.count_pos_iff.2 hm) (hc x m)
theorem Held.Covers.pos {h : Held} {x : LockId} {m : Mode} {l : Fp} (hc : h.Covers ((x, m) :: l)) :
    0 < h x m :=
  hc.mem_pos List.mem_cons_self

theorem Held.add_sub (h : Held) (x : LockId) (m : Mode) : (h.add x m).sub x m = h :=
  Held.minus_plus h _

theorem Held.add_apply (h : Held) (x y : LockId) (m m' : Mode) :
    (h.add x m) y m' = h y m' + if x = y ∧ m = m' then 1 else 0 := by
  simp [Held.add, Held.plus, List.count_cons]

theorem Held.sub_apply (h : Held) (x y : LockId) (m m' : Mode) :
    (h.sub x m) y m' = h y m' - if x = y ∧ m = m' then 1 else 0 := by
  simp [Held.sub, Held.minus, List.count_cons]

/-- holds are counted, so permuted footprints are the same ghost state -/
theorem Held.plus_perm (h : Held) {a b : Fp} (p : a.Perm b) : h.plus a = h.plus b := by
  funext y m; simp [Held.plus, p.count_eq]
theorem Held.minus_perm (h : Held) {a b : Fp} (p : a.Perm b) : h.minus a = h.minus b := by
  funext y m; simp [Held.minus, p.count_eq]
theorem Held.Covers.perm {h : Held} {a b : Fp} (p : a.Perm b) (c : h.Covers a) : h.Covers b := by
  intro y m; rw [← p.count_eq]; exact c y m

structure HG where
  held : Held := Held.empty
  stuck : Held := Held.empty
  depth : Nat := 0          -- nesting depth of non-blocking API calls (try_*, Debug, …)
  panics : Nat := 0

def respPanics : Resp → Nat | .panic => 1 | _ => 0

/-- An optional rank discipline (g2 of DESIGN §4). With `none` the specification carries no
ordering obligation (all the theorems about holds are unconditional); with `some rank` a
blocking acquisition of `x` is allowed only while every lock held has a smaller rank. -/
abbrev RankOpt := Option (LockId → Nat)

def Low (ro : RankOpt) (h : Held) (x : LockId) : Prop :=
  match ro with
  | none => True
  | some rank => ∀ y m, 0 < h y m → rank y < rank x

@[simp] theorem Low_none (h : Held) (x : LockId) : Low none h x = True := rfl

theorem Low_empty (ro : RankOpt) (x : LockId) : Low ro Held.empty x := by
  cases ro with
  | none => trivial
  | some rank => intro y m h; exact absurd h (Nat.lt_irrefl 0)

/-- Obligations of the code (g1 … g5 of DESIGN §4). -/
def holdPre (ro : RankOpt) (g : HG) : Op → Prop
  | .acq _ true x => g.depth = 0 ∧ Low ro g.held x    -- g3: never block inside try / non-acquiring APIs; g2: rank
  | .acq _ false _ => True
  | .rel m x => 0 < g.held x m                              -- g1: release only what is held, in its mode
  | .kill _ => False                                        -- happylock itself never kills a lock
  | .access x (some _) => 0 < g.held x .excl                -- g4
  | .access x none => 0 < g.held x .excl ∨ 0 < g.held x .shared
  | .mark n =>                                              -- g5: key handed back ⇒ nothing held;
    (n = mkKeyBack ∨ n = mkBeginBlocking ∨ n = mkBeginTry) →  --     an acquiring call starts ⇒ nothing held
      ∀ x m, g.held x m = 0
  | _ => True

def holdAdm (n : Nat) (g : HG) : Op → Resp → Prop
  | .acq _ true _, r => r ≠ .no ∧ (r = .panic → g.panics < n)
  | .acq _ false _, r => r = .panic → g.panics < n
  | .rel _ _, r => r ≠ .no ∧ (r = .panic → g.panics < n)
  | .keyGet, r => r ≠ .panic
  | .poisonGet _, r => r ≠ .panic
  | _, r => r = .ok

def holdUpd (g : HG) : Op → Resp → HG
  | .acq m _ x, .ok => { g with held := g.held.add x m }
  | .acq _ _ _, .panic => { g with panics := g.panics + 1 }
  | .rel m x, .ok => { g with held := g.held.sub x m }
  | .rel m x, .panic =>
    { g with held := g.held.sub x m, stuck := g.stuck.add x m, panics := g.panics + 1 }
  | .mark k, _ =>
    if k = mkBeginTry ∨ k = mkBeginNonAcq then { g with depth := g.depth + 1 }
    else if k = mkEndCall then { g with depth := g.depth - 1 }
    else g
  | _, _ => g

def HoldSpec (n : Nat) (ro : RankOpt) : Spec HG := { pre := holdPre ro, adm := holdAdm n, upd := holdUpd }

def markDepth (k d : Nat) : Nat :=
  if k = mkBeginTry ∨ k = mkBeginNonAcq then d + 1 else if k = mkEndCall then d - 1 else d

theorem holdUpd_mark (g : HG) (k : Nat) (r : Resp) :
    holdUpd g (.mark k) r = { g with depth := markDepth k g.depth } :=
  -- `holdUpd` has the two `if`s around the record, `markDepth` inside its field
  ((apply_ite (fun d => ({ g with depth := d } : HG)) _ _ _).trans
    (congrArg _ (apply_ite (fun d => ({ g with depth := d } : HG)) _ _ _))).symm

theorem markDepth_of_le {k : Nat} (hk : mkBody ≤ k) (d : Nat) : markDepth k d = d := by
  simp only [markDepth, mkBeginTry, mkBeginNonAcq, mkEndCall, mkBody] at hk ⊢
  rw [if_neg (by omega), if_neg (by omega)]

theorem holdUpd_held_other (g : HG) {o : Op} (r : Resp) (hacq : ∀ m b x, o ≠ .acq m b x)
    (hrel : ∀ m x, o ≠ .rel m x) : (holdUpd g o r).held = g.held := by
  cases o with
  | acq m b x => exact absurd rfl (hacq m b x)
  | rel m x => exact absurd rfl (hrel m x)
  | mark k => rw [holdUpd_mark]
  | _ => cases r <;> rfl

/-! the rank option enters the obligations only: the ghost and what the environment may answer do
not depend on it -/

theorem ghostAfter_ro (n : Nat) (ro ro' : RankOpt) (g : HG) (tr : List (Op × Resp)) :
    ghostAfter (HoldSpec n ro) g tr = ghostAfter (HoldSpec n ro') g tr := by
  induction tr generalizing g with
  | nil => rfl
  | cons a tr ih => obtain ⟨o, r⟩ := a; exact ih _

theorem admissible_ro (n : Nat) (ro ro' : RankOpt) (g : HG) (tr : List (Op × Resp)) :
    Admissible (HoldSpec n ro) g tr → Admissible (HoldSpec n ro') g tr := by
  induction tr generalizing g with
  | nil => exact id
  | cons a tr ih => obtain ⟨o, r⟩ := a; exact fun h => ⟨h.1, ih _ h.2⟩

def LowFp (ro : RankOpt) (h : Held) (fp : Fp) : Prop := ∀ k ∈ fp, Low ro h k.1

/-- every lock of `a` ranks below every lock of `b` (no obligation without a rank) -/
def FpBelow (ro : RankOpt) (a b : Fp) : Prop :=
  match ro with
  | none => True
  | some rank => ∀ x ∈ a, ∀ y ∈ b, rank x.1 < rank y.1

theorem LowFp_empty (ro : RankOpt) (fp : Fp) : LowFp ro Held.empty fp := fun k _ => Low_empty ro k.1

theorem LowFp.mono {ro : RankOpt} {h : Held} {a b : Fp} (hl : LowFp ro h b) (hs : ∀ k ∈ a, k ∈ b) :
    LowFp ro h a := fun k hk => hl k (hs k hk)

theorem LowFp.plus {ro : RankOpt} {h : Held} {a b : Fp} (hl : LowFp ro h b) (hab : FpBelow ro a b) :
    LowFp ro (h.plus a) b := by
  cases ro with
  | none => intro k _; trivial
  | some rank =>
    intro k hk y m hpos
    rcases Nat.add_pos_iff_pos_or_pos.1 hpos with hy | hc
    · exact hl k hk y m hy
    · exact hab (y, m) (List.count_pos_iff.1 hc) k hk

end HLV
