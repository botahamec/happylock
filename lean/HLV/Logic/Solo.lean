/-
  HLV.Logic.Solo — the *deterministic* reading of the code: one thread running alone against
  the raw-lock table of `Model/Env.lean`, no faults, everything other threads hold frozen
  ("with no concurrent activity"). Where the hold logic (`Logic/Contracts.lean`) says what the
  code may do under any answers, this file says what it *does* under the answers the table
  actually gives: the outcome of `try_*` as a function of the table, and the exact table after.

  Contract `DetLock`; proved for the leaves, for `ordered_try_*` / `unlock_all_*` and for
  `RetryingLockCollection::raw_try_*` over any member list, and for every shape by induction.
  At the end: quiescent tables (`Quiescent`, `freeFor`), in which what the table grants is what is
  free, and the API's own operations run alone; C13, C04 and C09 are stated over these.
-/
import HLV.Logic.Shapes
import HLV.Logic.EnvStep
namespace HLV

open Prog

inductive Out (ε α : Type)
  | done (a : α) (e : Env)
  | unwound (c : ε) (e : Env)
  | spin (e : Env)
  | abort (e : Env)
  | stuck (e : Env)          -- next operation is a blocking acquisition the table does not grant

/-- run `p` as thread `t`, alone, without faults -/
def solo {ε α : Type} (pol : Policy) (t : Tid) : Prog ε α → Env → Out ε α
  | .done a, e => .done a e
  | .unwind c, e => .unwound c e
  | .spin, e => .spin e
  | .abort, e => .abort e
  | .op o k, e =>
    match e.step pol t o false with
    | .stepped r e' _ => solo pol t (k r) e'
    | .blocked e' => .stuck e'

def Out.result {ε α : Type} : Out ε α → Option α
  | .done a _ => some a
  | _ => none

def Out.env {ε α : Type} : Out ε α → Env
  | .done _ e => e
  | .unwound _ e => e
  | .spin e => e
  | .abort e => e
  | .stuck e => e

variable {pol : Policy} {t : Tid}

theorem solo_bindX {ε₁ ε₂ α β : Type} (p : Prog ε₁ β) (h : ε₁ → Prog ε₂ α) (k : β → Prog ε₂ α) (e : Env) :
    solo pol t (bindX p h k) e =
      match solo pol t p e with
      | .done b e' => solo pol t (k b) e'
      | .unwound c e' => solo pol t (h c) e'
      | .spin e' => .spin e'
      | .abort e' => .abort e'
      | .stuck e' => .stuck e' := by
  induction p generalizing e with
  | op o c ih =>
    simp only [bindX, solo]
    cases e.step pol t o false with
    | stepped r e' ev => exact ih r e'
    | blocked e' => rfl
  | _ => rfl

/-! `call`, `handle` and `Prog.bind` are instances of `bindX`: the two lemmas apply to all three. -/

theorem solo_bindX_done {ε₁ ε₂ α β : Type} {p : Prog ε₁ β} {e e' : Env} {b : β} (hp : solo pol t p e = .done b e')
    (h : ε₁ → Prog ε₂ α) (k : β → Prog ε₂ α) : solo pol t (bindX p h k) e = solo pol t (k b) e' := by
  rw [solo_bindX, hp]

theorem solo_bindX_stuck {ε₁ ε₂ α β : Type} {p : Prog ε₁ β} {e e' : Env} (hp : solo pol t p e = .stuck e')
    (h : ε₁ → Prog ε₂ α) (k : β → Prog ε₂ α) : solo pol t (bindX p h k) e = .stuck e' := by
  rw [solo_bindX, hp]

theorem solo_call_done {ε ε' α β : Type} {cells : ε} {callee : Prog ε' β} {k : β → Prog ε α} {e e' : Env} {b : β}
    (h : solo pol t callee e = .done b e') : solo pol t (call cells callee k) e = solo pol t (k b) e' :=
  solo_bindX_done h _ _

theorem solo_handle_done {ε ε' α : Type} {outer : ε'} {body : Prog ε α} {c : ε → Prog Unit Unit} {e e' : Env} {a : α}
    (h : solo pol t body e = .done a e') : solo pol t (handle outer body c) e = .done a e' :=
  solo_bindX_done h _ _

def Env.take1 (e : Env) (t : Tid) (p : LockId × Mode) : Env := e.setLock p.1 ((e.locks p.1).take t p.2)
def Env.rel1 (e : Env) (t : Tid) (p : LockId × Mode) : Env := e.setLock p.1 ((e.locks p.1).release t p.2)

def takeAll (t : Tid) (fp : Fp) (e : Env) : Env := fp.foldl (fun e p => e.take1 t p) e
def relAll (t : Tid) (fp : Fp) (e : Env) : Env := fp.foldl (fun e p => e.rel1 t p) e

@[simp] theorem takeAll_nil (e : Env) : takeAll t [] e = e := rfl
@[simp] theorem relAll_nil (e : Env) : relAll t [] e = e := rfl
@[simp] theorem takeAll_cons (p : LockId × Mode) (fp : Fp) (e : Env) :
    takeAll t (p :: fp) e = takeAll t fp (e.take1 t p) := rfl
@[simp] theorem relAll_cons (p : LockId × Mode) (fp : Fp) (e : Env) :
    relAll t (p :: fp) e = relAll t fp (e.rel1 t p) := rfl
theorem takeAll_append (a b : Fp) (e : Env) : takeAll t (a ++ b) e = takeAll t b (takeAll t a e) := by
  simp [takeAll, List.foldl_append]
theorem relAll_append (a b : Fp) (e : Env) : relAll t (a ++ b) e = relAll t b (relAll t a e) := by
  simp [relAll, List.foldl_append]

def Fp.ids (fp : Fp) : List LockId := fp.map (·.1)

@[simp] theorem Fp.ids_nil : Fp.ids [] = [] := rfl
@[simp] theorem Fp.ids_cons (p : LockId × Mode) (fp : Fp) : Fp.ids (p :: fp) = p.1 :: Fp.ids fp := rfl
theorem Fp.ids_append (a b : Fp) : Fp.ids (a ++ b) = Fp.ids a ++ Fp.ids b := by simp [Fp.ids]

/-- what `takeAll t` (`f := (·.take t ·)`) and `relAll t` (`f := (·.release t ·)`) have in common:
every hold of the footprint changes the state of its own lock -/
def Env.foldHolds (f : LockSt → Mode → LockSt) (fp : Fp) (e : Env) : Env :=
  fp.foldl (fun e p => e.setLock p.1 (f (e.locks p.1) p.2)) e

section
variable (f : LockSt → Mode → LockSt)

theorem foldHolds_locks_notin (fp : Fp) (e : Env) (x : LockId) (h : x ∉ Fp.ids fp) :
    (e.foldHolds f fp).locks x = e.locks x := by
  induction fp generalizing e with
  | nil => rfl
  | cons p fp ih =>
    simp only [Fp.ids_cons, List.mem_cons, not_or] at h
    exact (ih _ h.2).trans (if_neg h.1)

theorem foldHolds_locks_in (fp : Fp) (e : Env) (p : LockId × Mode) (hn : (Fp.ids fp).Nodup) (hp : p ∈ fp) :
    (e.foldHolds f fp).locks p.1 = f (e.locks p.1) p.2 := by
  induction fp generalizing e with
  | nil => cases hp
  | cons q fp ih =>
    simp only [Fp.ids_cons, List.nodup_cons] at hn
    rcases List.mem_cons.1 hp with rfl | hp
    · exact (foldHolds_locks_notin f _ _ _ hn.1).trans (if_pos rfl)
    · have hne : p.1 ≠ q.1 := fun h => hn.1 (h ▸ List.mem_map_of_mem hp)
      exact (ih _ hn.2 hp).trans (congrArg (f · p.2) (if_neg hne))

theorem foldHolds_keyFlag (fp : Fp) (e : Env) : (e.foldHolds f fp).keyFlag = e.keyFlag := by
  induction fp generalizing e with
  | nil => rfl
  | cons p fp ih => exact ih _

theorem foldHolds_poison (fp : Fp) (e : Env) : (e.foldHolds f fp).poison = e.poison := by
  induction fp generalizing e with
  | nil => rfl
  | cons p fp ih => exact ih _

end

theorem takeAll_locks_notin (fp : Fp) (e : Env) (x : LockId) (h : x ∉ Fp.ids fp) :
    (takeAll t fp e).locks x = e.locks x :=
  foldHolds_locks_notin (·.take t ·) fp e x h

theorem relAll_locks_notin (fp : Fp) (e : Env) (x : LockId) (h : x ∉ Fp.ids fp) :
    (relAll t fp e).locks x = e.locks x :=
  foldHolds_locks_notin (·.release t ·) fp e x h

theorem takeAll_locks_in (fp : Fp) (e : Env) (p : LockId × Mode) (hn : (Fp.ids fp).Nodup) (hp : p ∈ fp) :
    (takeAll t fp e).locks p.1 = (e.locks p.1).take t p.2 :=
  foldHolds_locks_in (·.take t ·) fp e p hn hp

theorem relAll_locks_in (fp : Fp) (e : Env) (p : LockId × Mode) (hn : (Fp.ids fp).Nodup) (hp : p ∈ fp) :
    (relAll t fp e).locks p.1 = (e.locks p.1).release t p.2 :=
  foldHolds_locks_in (·.release t ·) fp e p hn hp

@[simp] theorem takeAll_keyFlag (fp : Fp) (e : Env) : (takeAll t fp e).keyFlag = e.keyFlag :=
  foldHolds_keyFlag (·.take t ·) fp e
@[simp] theorem takeAll_poison (fp : Fp) (e : Env) : (takeAll t fp e).poison = e.poison :=
  foldHolds_poison (·.take t ·) fp e
@[simp] theorem relAll_keyFlag (fp : Fp) (e : Env) : (relAll t fp e).keyFlag = e.keyFlag :=
  foldHolds_keyFlag (·.release t ·) fp e
@[simp] theorem relAll_poison (fp : Fp) (e : Env) : (relAll t fp e).poison = e.poison :=
  foldHolds_poison (·.release t ·) fp e

theorem Env.ext' {a b : Env} (h1 : a.locks = b.locks) (h2 : a.keyFlag = b.keyFlag) (h3 : a.poison = b.poison) : a = b := by
  cases a
  cases b
  congr

/-- the raw `try` of one hold is granted by the table -/
def avail (pol : Policy) (e : Env) (p : LockId × Mode) : Bool :=
  !(e.locks p.1).killed && grantable pol (e.locks p.1) p.2

theorem avail_iff {e : Env} {p : LockId × Mode} :
    avail pol e p = true ↔ (e.locks p.1).killed = false ∧ grantable pol (e.locks p.1) p.2 = true := by
  rw [avail, Bool.and_eq_true, Bool.not_eq_true']

/-- thread `t` is not registered as a waiting writer (it is running) -/
def NotWaiting (t : Tid) (e : Env) : Prop := ∀ x, t ∉ (e.locks x).waitW

theorem all_eq_false_iff {α : Type} {p : α → Bool} {l : List α} : l.all p = false ↔ ¬ ∀ x ∈ l, p x = true := by
  rw [← Bool.not_eq_true, List.all_eq_true]

theorem avail_takeAll (fp : Fp) (e : Env) (p : LockId × Mode) (h : p.1 ∉ Fp.ids fp) :
    avail pol (takeAll t fp e) p = avail pol e p := by
  simp [avail, takeAll_locks_notin _ _ _ h]

theorem all_avail_takeAll (a fp : Fp) (e : Env) (h : ∀ p ∈ fp, p.1 ∉ Fp.ids a) :
    fp.all (avail pol (takeAll t a e)) = fp.all (avail pol e) := by
  rw [Bool.eq_iff_iff, List.all_eq_true, List.all_eq_true]
  exact forall₂_congr fun p hp => by rw [avail_takeAll _ _ _ (h p hp)]

theorem notWaiting_takeAll (fp : Fp) (e : Env) (h : NotWaiting t e) : NotWaiting t (takeAll t fp e) := by
  induction fp generalizing e with
  | nil => exact h
  | cons p fp ih =>
    exact ih _ (Env.forall_setLock (P := fun _ s => t ∉ s.waitW)
      (fun hm => h _ ((LockSt.take_waitW_sublist ..).mem hm)) fun y _ => h y)

theorem relAll_takeAll (fp : Fp) (e : Env) (hn : (Fp.ids fp).Nodup) (hw : NotWaiting t e)
    (ha : ∀ p ∈ fp, avail pol e p = true) : relAll t fp (takeAll t fp e) = e := by
  refine Env.ext' (funext fun x => ?_) (by simp) (by simp)
  by_cases hx : x ∈ Fp.ids fp
  · obtain ⟨p, hp, rfl⟩ := List.mem_map.1 hx
    rw [relAll_locks_in _ _ _ hn hp, takeAll_locks_in _ _ _ hn hp,
      LockSt.release_take (avail_iff.1 (ha p hp)).2 (hw _)]
  · rw [relAll_locks_notin _ _ _ hx, takeAll_locks_notin _ _ _ hx]

theorem solo_tryOp {ε α : Type} (m : Mode) (x : LockId) (c : Resp → Prog ε α) (e : Env) :
    solo pol t (.op (.acq m false x) c) e =
      if avail pol e (x, m) then solo pol t (c .ok) (e.take1 t (x, m)) else solo pol t (c .no) e := by
  unfold avail
  cases hk : (e.locks x).killed with
  | true => rw [solo, Env.step_acq_killed false false hk]; rfl
  | false =>
    rw [solo, Env.step_acq false hk]
    cases grantable pol (e.locks x) m <;> rfl

theorem solo_relOp {ε α : Type} (m : Mode) (x : LockId) (c : Resp → Prog ε α) (e : Env) :
    solo pol t (.op (.rel m x) c) e = solo pol t (c .ok) (e.rel1 t (x, m)) := rfl

theorem solo_mark {ε α : Type} (k : Nat) (c : Resp → Prog ε α) (e : Env) :
    solo pol t (.op (.mark k) c) e = solo pol t (c .ok) e := rfl

theorem solo_keyDrop {ε α : Type} (c : Resp → Prog ε α) (e : Env) :
    solo pol t (.op .keyDrop c) e = solo pol t (c .ok) (e.setKey t false) := rfl

theorem solo_poisonGet {ε α : Type} (p : PoisonId) (c : Resp → Prog ε α) (e : Env) :
    solo pol t (.op (.poisonGet p) c) e = solo pol t (c (if e.poison p then .ok else .no)) e := rfl

/-- What `L` does when run alone against the table: `try_` succeeds exactly when the table
grants every hold of its footprint, takes exactly those holds, and otherwise leaves the table
exactly as it was; `rel` releases exactly the footprint. -/
structure DetLock (pol : Policy) (t : Tid) (L : RawLockM) (fp : FpFun) : Prop where
  try_ok : ∀ m e, NotWaiting t e → (Fp.ids (fp m)).Nodup → (∀ p ∈ fp m, avail pol e p = true) →
    solo pol t (L.try_ m) e = .done true (takeAll t (fp m) e)
  try_no : ∀ m e, NotWaiting t e → (Fp.ids (fp m)).Nodup → ¬ (∀ p ∈ fp m, avail pol e p = true) →
    solo pol t (L.try_ m) e = .done false e
  rel : ∀ m e, solo pol t (L.rel m) e = .done () (relAll t (fp m) e)

/-- the two `try` cases of the contract in one equation -/
theorem DetLock.try_eq {L : RawLockM} {fp : FpFun} (h : DetLock pol t L fp) (m : Mode) (e : Env)
    (hw : NotWaiting t e) (hn : (Fp.ids (fp m)).Nodup) :
    solo pol t (L.try_ m) e =
      .done ((fp m).all (avail pol e)) (if (fp m).all (avail pol e) then takeAll t (fp m) e else e) := by
  cases ha : (fp m).all (avail pol e) with
  | true => exact h.try_ok m e hw hn (List.all_eq_true.1 ha)
  | false => exact h.try_no m e hw hn (all_eq_false_iff.1 ha)

theorem DetLock.of_try_eq {L : RawLockM} {fp : FpFun}
    (htry : ∀ m e, NotWaiting t e → (Fp.ids (fp m)).Nodup → solo pol t (L.try_ m) e =
      .done ((fp m).all (avail pol e)) (if (fp m).all (avail pol e) then takeAll t (fp m) e else e))
    (hrel : ∀ m e, solo pol t (L.rel m) e = .done () (relAll t (fp m) e)) : DetLock pol t L fp where
  try_ok m e hw hn ha := by rw [htry m e hw hn, List.all_eq_true.2 ha]; rfl
  try_no m e hw hn ha := by rw [htry m e hw hn, all_eq_false_iff.2 ha]; rfl
  rel := hrel

theorem det_rwLeaf (x : LockId) : DetLock pol t (rwLeaf x) (fun m => [(x, m)]) :=
  .of_try_eq
    (fun m e _ _ => by
      simp only [rwLeaf, solo_tryOp, List.all_cons, List.all_nil, Bool.and_true]
      cases avail pol e (x, m) <;> rfl)
    (fun m e => solo_relOp m x _ e)

theorem det_mutexLeaf (x : LockId) : DetLock pol t (mutexLeaf x) (fun _ => [(x, .excl)]) where
  try_ok _ := (det_rwLeaf x).try_ok .excl
  try_no _ := (det_rwLeaf x).try_no .excl
  rel _ := (det_rwLeaf x).rel .excl

def Members.Det (pol : Policy) (t : Tid) (ms : Members) : Prop := ∀ p ∈ ms, DetLock pol t p.1 p.2

theorem det_unlockAll (ms : Members) (hm : ms.Det pol t) (m : Mode) (e : Env) :
    solo pol t (unlockAll m (Members.locks ms)) e = .done () (relAll t (Members.fp ms m) e) := by
  unfold unlockAll
  induction ms generalizing e with
  | nil => rfl
  | cons p ms ih =>
    simp only [Members.locks_cons, unlockAllFrom, solo_bindX, (hm p (List.mem_cons_self ..)).rel m e]
    rw [ih (fun q hq => hm q (List.mem_cons_of_mem _ hq)), Members.fp_cons, relAll_append]

theorem nodup_append_disjoint {a b : List LockId} (h : (a ++ b).Nodup) : ∀ x ∈ b, x ∉ a := by
  intro x hb ha
  exact (List.nodup_append.1 h).2.2 x ha x hb rfl

/-! ### members tried one after the other

The loops of `ordered_try_*`, of retry's `raw_try_*` and of retry's `raw_write/raw_read` run through
the members `ms = pre ++ l :: ls` with `pre` taken: the table is `takeAll t (fp pre) e`. The holds of
`l` are not among those of `pre`, so `l` sees of `e` what it would see without `pre` taken. -/

section
variable {ms pre ls : Members} {l : RawLockM × FpFun} {m : Mode} {e : Env}

theorem Members.fp_concat (pre : Members) (l : RawLockM × FpFun) (m : Mode) :
    Members.fp (pre ++ [l]) m = Members.fp pre m ++ l.2 m := by
  simp [Members.fp_append]

theorem Members.nodup_split (hs : ms = pre ++ l :: ls) (hn : (Fp.ids (Members.fp ms m)).Nodup) :
    (Fp.ids (Members.fp pre m)).Nodup ∧ (Fp.ids (l.2 m)).Nodup ∧
      ∀ p ∈ l.2 m, p.1 ∉ Fp.ids (Members.fp pre m) := by
  rw [hs, Members.fp_append, Members.fp_cons, Fp.ids_append, Fp.ids_append] at hn
  have h := List.nodup_append.1 hn
  exact ⟨h.1, (List.nodup_append.1 h.2.1).1, fun p hp =>
    nodup_append_disjoint hn _ (List.mem_append_left _ (List.mem_map_of_mem hp))⟩

variable (hd : ms.Det pol t) (hn : (Fp.ids (Members.fp ms m)).Nodup) (hw : NotWaiting t e)
include hd hn hw

/-- one member tried with the earlier ones held -/
theorem solo_tryNext {ε α : Type} (hs : ms = pre ++ l :: ls) (c : ε) (k : Bool → Prog ε α) :
    solo pol t (call c (l.1.try_ m) k) (takeAll t (Members.fp pre m) e) =
      if (l.2 m).all (avail pol e) then solo pol t (k true) (takeAll t (Members.fp (pre ++ [l]) m) e)
      else solo pol t (k false) (takeAll t (Members.fp pre m) e) := by
  obtain ⟨-, hnl, hdisj⟩ := Members.nodup_split hs hn
  have htry := (hd l (by simp [hs])).try_eq m _ (notWaiting_takeAll (Members.fp pre m) e hw) hnl
  rw [all_avail_takeAll _ _ _ hdisj] at htry
  rw [solo_call_done htry]
  cases (l.2 m).all (avail pol e) with
  | false => rfl
  | true => rw [Members.fp_concat, takeAll_append]; rfl

/-- `unlock_all(&locks[0..i])` with the first `i` members held, all of them granted by `e`: back to `e` -/
theorem solo_rollback {ε α : Type} (hs : ms = pre ++ l :: ls)
    (hpre : (Members.fp pre m).all (avail pol e) = true) (c : ε) (k : Unit → Prog ε α) :
    solo pol t (call c (unlockAll m ((Members.locks ms).take pre.length)) k) (takeAll t (Members.fp pre m) e) =
      solo pol t (k ()) e := by
  have htake : (Members.locks ms).take pre.length = Members.locks pre := by
    simp [hs, Members.locks, List.take_left']
  rw [htake, solo_call_done (det_unlockAll pre (fun q hq => hd q (by simp [hs, hq])) m _),
    relAll_takeAll _ _ (Members.nodup_split hs hn).1 hw (List.all_eq_true.1 hpre)]

/-- the loop of `ordered_try_*` (and of retry's `raw_try_*`, which is the same code) from member
`pre.length` on -/
theorem det_tryBody (ls pre : Members) (k : Nat) (hs : ms = pre ++ ls)
    (hpre : (Members.fp pre m).all (avail pol e) = true) :
    solo pol t (orderedTryBody m (Members.locks ms) (Members.locks ls) pre.length k)
        (takeAll t (Members.fp pre m) e) =
      .done ((Members.fp ls m).all (avail pol e))
        (if (Members.fp ls m).all (avail pol e) then takeAll t (Members.fp ms m) e else e) := by
  induction ls generalizing pre k with
  | nil => simp [hs, orderedTryBody, solo]
  | cons l ls ih =>
    rw [Members.locks_cons, orderedTryBody, solo_tryNext hd hn hw hs, Members.fp_cons, List.all_append]
    cases hl : (l.2 m).all (avail pol e) with
    | false => exact solo_rollback hd hn hw hs hpre _ _
    | true =>
      -- `l` is taken and joins the prefix
      have := ih (pre ++ [l]) (k + 1) (by simp [hs]) (by simp [Members.fp_concat, hpre, hl])
      rw [List.length_append] at this
      rwa [Bool.true_and]

end

theorem det_ordered (ms : Members) (hm : ms.Det pol t) :
    DetLock pol t (orderedLock (Members.locks ms)) (Members.fp ms) :=
  .of_try_eq
    (fun _ _ hw hn => solo_handle_done (det_tryBody hm hn hw ms [] 0 rfl rfl))
    (det_unlockAll ms hm)

theorem det_retry (fuel : Nat) (ms : Members) (hm : ms.Det pol t) :
    DetLock pol t (retryLock fuel (Members.locks ms)) (Members.fp ms) :=
  .of_try_eq
    (fun m e hw hn => retryLock_try fuel m _ ▸ (det_ordered ms hm).try_eq m e hw hn)
    (det_unlockAll ms hm)

theorem IsMember.det {ro : RankOpt} {q : RawLockM × FpFun} (h : IsMember ro q) : DetLock pol t q.1 q.2 := by
  induction h with
  | mutex x => exact det_mutexLeaf x
  | rwlock x => exact det_rwLeaf x
  | owned ms _ _ ih => exact det_ordered ms ih

theorem getPtrs_det (W : World) : ∀ S : Shape, (ptrsM (getPtrs W S)).Det pol t :=
  fun S q hq => (getPtrs_isMember W S (ptrsOK_none W S) q hq).det

theorem getPtrsL_det (W : World) : ∀ ss : List Shape, (ptrsM (getPtrsL W ss)).Det pol t :=
  fun ss => getPtrs_det W (.seq ss)

theorem IsRaw.det {ro : RankOpt} {fuel : Nat} {L : RawLockM} {fp : FpFun} {b : Bool}
    (h : IsRaw ro fuel L fp b) : DetLock pol t L fp := by
  cases h with
  | member q hq => exact hq.det
  | retry ms hm => exact det_retry _ ms fun q hq => (hm q hq).det

/-- **Every lockable shape is deterministic**: run alone, its `try_*` is a function of the
table, whatever the kind, size, arrangement and nesting. -/
theorem toRaw_det (W : World) : ∀ S : Shape, lockable S = true → DetLock pol t (toRaw W S) (shapeFp W S) :=
  fun S hl => (toRaw_isRaw W S hl (shapeOK_none W S)).det

/-! ### quiescent tables: nobody waits, no lock is killed; what the table grants is what is free -/

/-- no thread is waiting and no lock has been killed by an earlier fault -/
def Quiescent (e : Env) : Prop := ∀ x, (e.locks x).waitW = [] ∧ (e.locks x).killed = false

/-- the hold `p` is compatible with what the table records: an exclusive hold needs the lock
held in no mode at all, a shared hold needs it not held exclusively -/
def freeFor (e : Env) (p : LockId × Mode) : Bool :=
  match p.2 with
  | .excl => (e.locks p.1).writer.isNone && (e.locks p.1).readers.isEmpty
  | .shared => (e.locks p.1).writer.isNone

theorem avail_quiescent (pol : Policy) (e : Env) (hq : Quiescent e) (p : LockId × Mode) :
    avail pol e p = freeFor e p := by
  obtain ⟨x, m⟩ := p
  have := hq x
  cases m <;> cases pol <;> simp [avail, freeFor, grantable, LockSt.free, this.1, this.2]

theorem quiescent_notWaiting (t : Tid) (e : Env) (hq : Quiescent e) : NotWaiting t e := by
  intro x; rw [(hq x).1]; simp

theorem shapeFp_ids_nodup (W : World) (S : Shape) (m : Mode) (hl : lockable S = true)
    (hnd : (declLeaves S).Nodup) : (Fp.ids (shapeFp W S m)).Nodup := by
  have hp := (shapeFp_perm W m S hl).map (·.1)
  rw [← declLeaves_eq m S] at hp
  exact hp.nodup_iff.2 hnd

/-- in a quiescent table the footprint is granted exactly when every declared leaf is free -/
theorem all_avail_quiescent (pol : Policy) (W : World) (S : Shape) (m : Mode) (e : Env)
    (hl : lockable S = true) (hq : Quiescent e) :
    (shapeFp W S m).all (avail pol e) = (holdsOf S m).all (freeFor e) :=
  (shapeFp_perm W m S hl).all_eq.trans (List.all_congr rfl (avail_quiescent pol e hq))

/-- **`try_*` is exact in a quiescent table**: it returns `true` exactly when every declared leaf is
free for the requested hold, with exactly the footprint taken, and otherwise leaves the table as it was. -/
theorem toRaw_try_quiescent (pol : Policy) (t : Tid) (W : World) (S : Shape) (m : Mode) (e : Env)
    (hl : lockable S = true) (hnd : (declLeaves S).Nodup) (hq : Quiescent e) :
    solo pol t ((toRaw W S).try_ m) e =
      if (holdsOf S m).all (freeFor e) then .done true (takeAll t (shapeFp W S m) e)
      else .done false e := by
  rw [(toRaw_det W S hl).try_eq m e (quiescent_notWaiting t e hq) (shapeFp_ids_nodup W S m hl hnd),
    all_avail_quiescent pol W S m e hl hq]
  cases (holdsOf S m).all (freeFor e) <;> rfl

theorem relAll_perm (t : Tid) {fp fp' : Fp} (hp : fp'.Perm fp) (hn : (Fp.ids fp).Nodup) (e : Env) :
    relAll t fp' e = relAll t fp e := by
  have hpi : (Fp.ids fp').Perm (Fp.ids fp) := hp.map _
  refine Env.ext' (funext fun x => ?_) (by simp) (by simp)
  by_cases hx : x ∈ Fp.ids fp
  · obtain ⟨p, hpm, rfl⟩ := List.mem_map.1 hx
    rw [relAll_locks_in _ _ _ (hpi.nodup_iff.2 hn) (hp.mem_iff.2 hpm), relAll_locks_in _ _ _ hn hpm]
  · rw [relAll_locks_notin _ _ _ (mt hpi.mem_iff.1 hx), relAll_locks_notin _ _ _ hx]

section
variable (pol : Policy) (t : Tid) (W : World) (S : Shape) (m : Mode) (e : Env)
  (hl : lockable S = true) (hnd : (declLeaves S).Nodup) (hq : Quiescent e)
include hl hnd hq

/-- the raw try at the head of an API call: what follows runs with the footprint taken if every
declared leaf is free, and with the table as it was otherwise -/
theorem solo_try_then {α : Type} (h : Unit → Prog Unit α) (k : Bool → Prog Unit α) :
    solo pol t (Prog.bindX ((toRaw W S).try_ m) h k) e =
      if (holdsOf S m).all (freeFor e) then solo pol t (k true) (takeAll t (shapeFp W S m) e)
      else solo pol t (k false) e := by
  rw [solo_bindX, toRaw_try_quiescent pol t W S m e hl hnd hq]
  cases (holdsOf S m).all (freeFor e) <;> rfl

theorem relAll_takeAll_quiescent (hfree : (holdsOf S m).all (freeFor e) = true) {fp : Fp}
    (hp : fp.Perm (shapeFp W S m)) : relAll t fp (takeAll t (shapeFp W S m) e) = e := by
  rw [relAll_perm t hp (shapeFp_ids_nodup W S m hl hnd)]
  exact relAll_takeAll _ _ (shapeFp_ids_nodup W S m hl hnd) (quiescent_notWaiting t e hq)
    (List.all_eq_true.1 ((all_avail_quiescent .readerPref W S m e hl hq).trans hfree))

end

/-! ### the API's own operations, run alone -/

theorem solo_readPoison (pol : Policy) (t : Tid) (e : Env) : ∀ (ps : List PoisonId) (b : Bool),
    solo pol t (readPoison ps b) e = .done (b || ps.any e.poison) e
  | [], b => by simp [readPoison, solo]
  | p :: ps, b => by
    rw [readPoison, solo_poisonGet, solo_readPoison pol t e ps, List.any_cons, ← Bool.or_assoc]
    cases e.poison p <;> rfl

theorem solo_guardDrop (pol : Policy) (t : Tid) (m : Mode) : ∀ (items : List GuardItem) (e : Env),
    solo pol t (guardDrop m items false) e = .done false (relAll t (itemsFp m items) e)
  | [], e => rfl
  | .poisonRef p :: gs, e => solo_guardDrop pol t m gs e
  | .leaf x isMutex :: gs, e => by
    rw [guardDrop, solo_relOp]
    exact solo_guardDrop pol t m gs _

end HLV
