/-
  HLV.Logic.Key — the key discipline (C06): a specification whose ghost is the thread-local key
  flag, answered deterministically (test-and-set), and the refinement invariant between the flag
  and the key tokens the client program owns.
-/
import HLV.Logic.OpsIn
namespace HLV
open Prog

variable {ε α : Type}

structure KG where
  flag : Bool := false      -- `KEY.is_locked` of this thread
  leaked : Bool := false    -- a key token (bare, or inside a guard) was leaked with `mem::forget`
  deriving Repr, DecidableEq

def keyPre (g : KG) : Op → Prop
  | .keyDrop => g.flag = true               -- only an existing key is dropped
  | .keyForget => g.flag = true
  | .mark k => k = mkGotKey → False         -- `ThreadKey::get()` never succeeds inside a hold
  | _ => True

/-- `ThreadKey::get` is a test-and-set of the flag; everything else may answer anything
(other threads, refusals, raw-lock faults: the key discipline must not depend on them). -/
def keyAdm (g : KG) : Op → Resp → Prop
  | .keyGet, r => (r = .ok ∧ g.flag = false) ∨ (r = .no ∧ g.flag = true)
  | _, _ => True

def keyUpd (g : KG) : Op → Resp → KG
  | .keyGet, .ok => { g with flag := true }
  | .keyDrop, _ => { g with flag := false }
  | .keyForget, _ => { g with leaked := true }
  | _, _ => g

def KeySpec : Spec KG := { pre := keyPre, adm := keyAdm, upd := keyUpd }

def nonKeyOp : Op → Prop
  | .keyGet => False
  | .keyDrop => False
  | .keyForget => False
  | .mark k => k ≠ mkGotKey
  | _ => True

theorem keyIgnores : KeySpec.Ignores nonKeyOp where
  pre g o ho := by
    cases o with
    | keyDrop | keyForget => exact ho.elim
    | mark k => exact ho
    | _ => trivial
  upd g o r ho := by
    -- the three arms of `keyUpd` that change the ghost are those of the key operations
    show keyUpd g o r = g
    unfold keyUpd
    split
    · exact ho.elim
    · exact ho.elim
    · exact ho.elim
    · rfl

/-- a mark other than `mkGotKey` (closed marks: by evaluation) -/
theorem mark_nonKey {k : Nat} (h : k ≠ mkGotKey := by decide) : nonKeyOp (.mark k) := h

theorem nonKey_of_lock (o : Op) (h : isLockOp o) : nonKeyOp o := by
  cases o with
  | acq | rel | kill => trivial
  | _ => exact h.elim

theorem debugFmt_nonKey (b : Option LockId) (S : Shape) : OpsIn nonKeyOp (debugFmt b S) :=
  debugFmt_opsIn (fun _ _ => trivial) (fun _ => trivial) (fun _ _ => trivial) mark_nonKey b S

theorem debugFmtL_nonKey (b : Option LockId) : ∀ ss : List Shape, OpsIn nonKeyOp (debugFmtL b ss) :=
  fun ss => debugFmt_nonKey b (.seq ss)

section
variable {c : Resp → Prog ε α} {Q : α → KG → Prop} {E : ε → KG → Prop} {g : KG}

theorem kwp_mark {k : Nat} (h : ∀ r, wp KeySpec (c r) Q E g) (hk : k ≠ mkGotKey := by decide) :
    wp KeySpec (.op (.mark k) c) Q E g :=
  keyIgnores.op (mark_nonKey hk) h

theorem kwp_keyDrop (hf : g.flag = true) (h : ∀ r, wp KeySpec (c r) Q E { g with flag := false }) :
    wp KeySpec (.op .keyDrop c) Q E g :=
  ⟨hf, fun r _ => h r⟩

theorem kwp_keyForget (hf : g.flag = true) (h : ∀ r, wp KeySpec (c r) Q E { g with leaked := true }) :
    wp KeySpec (.op .keyForget c) Q E g :=
  ⟨hf, fun r _ => h r⟩

/-- `ThreadKey::get()`: succeeds exactly when the flag is clear -/
theorem kwp_keyGet (hok : g.flag = false → wp KeySpec (c .ok) Q E { g with flag := true })
    (hno : g.flag = true → wp KeySpec (c .no) Q E g) : wp KeySpec (.op .keyGet c) Q E g := by
  refine ⟨trivial, fun r hr => ?_⟩
  rcases hr with ⟨rfl, hf⟩ | ⟨rfl, hf⟩
  · exact hok hf
  · exact hno hf

end

/-- the thread's key is inside an API call: the program has handed its token over, the flag is set
and nothing was leaked -/
structure InCall (u : UserSt) (g : KG) : Prop where
  keys : u.keys = 0
  flag : g.flag = true
  leaked : g.leaked = false

/-- the refinement invariant between key tokens owned by the program and the flag. It has three
states: no token and the flag clear; one token and the flag set; no token and the flag set for good,
because the token was leaked -/
def KeyInv (u : UserSt) (g : KG) : Prop :=
  u.keys ≤ 1 ∧ (g.leaked = true → u.keys = 0) ∧ (g.flag = true ↔ (u.keys = 1 ∨ g.leaked = true))

/-- while the flag is set the body of a hold leaves the ghost alone: `ThreadKey::get()` fails -/
theorem bodySteps_key {C : Ctx} {S : Shape} {body : List BodyStep} {g : KG} (hg : g.flag = true)
    {Q E : Unit → KG → Prop} (hQ : Q () g) (hE : E () g) :
    wp KeySpec (bodySteps C S body) Q E g := by
  induction body with
  | nil => exact hQ
  | cons b body ih =>
    cases b with
    | write | read => exact keyIgnores.op trivial fun _ => ih
    | dbg c bomb =>
      exact kwp_mark fun _ => keyIgnores.bindX (debugFmt_nonKey _ _)
        (fun _ => kwp_mark fun _ => hE) fun _ => kwp_mark fun _ => ih
    | getKey => exact kwp_keyGet (fun hf => nomatch hg.symm.trans hf) fun _ => kwp_mark fun _ => ih
    | isPoisoned c =>
      simp only [bodySteps]
      split
      · exact keyIgnores.op trivial fun r => kwp_mark (fun _ => ih) ite_ne
      · exact ih
    | clearPoison c =>
      simp only [bodySteps]
      split
      · exact keyIgnores.op trivial fun _ => ih
      · exact ih

theorem InCall.dropped {u' : UserSt} {g : KG} (hg : InCall u' g) : KeyInv u' { g with flag := false } := by
  refine ⟨hg.keys ▸ Nat.zero_le 1, fun _ => hg.keys, ?_⟩
  simp [hg.keys, hg.leaked]

theorem InCall.returned {u' : UserSt} {g : KG} (hg : InCall u' g) :
    KeyInv { u' with keys := u'.keys + 1 } g := by
  refine ⟨by simp [hg.keys], (fun h => nomatch hg.leaked.symm.trans h), ?_⟩
  simp [hg.keys, hg.flag]

theorem InCall.forgot {u' : UserSt} {g : KG} (hg : InCall u' g) : KeyInv u' { g with leaked := true } := by
  refine ⟨hg.keys ▸ Nat.zero_le 1, fun _ => hg.keys, ?_⟩
  simp [hg.flag]

theorem KeyInv.flag_false_iff {u : UserSt} {g : KG} (hi : KeyInv u g) :
    g.flag = false ↔ (u.keys = 0 ∧ g.leaked = false) := by
  obtain ⟨h1, -, h3⟩ := hi
  rw [← Bool.not_eq_true, h3, not_or, Bool.not_eq_true]
  exact and_congr_left' (by omega)

/-- the program owns a key: it is its only one (none is left once it is handed over), the flag is
set for it and nothing was leaked -/
theorem KeyInv.inCall {u : UserSt} {g : KG} (hi : KeyInv u g) (hk : u.keys ≠ 0) :
    InCall { u with keys := u.keys - 1 } g := by
  obtain ⟨h1, h2, h3⟩ := hi
  have hk1 : u.keys = 1 := Nat.le_antisymm h1 (Nat.pos_of_ne_zero hk)
  exact ⟨Nat.sub_eq_zero_of_le h1, h3.2 (.inl hk1), Bool.eq_false_iff.2 fun hl => hk (h2 hl)⟩

/-- what every session leaves: the invariant, and an outcome that is not the mark `mkGotKey` -/
def SesPost (r : Nat × UserSt) (g : KG) : Prop := r.1 ≠ mkGotKey ∧ KeyInv r.2 g

theorem sesPost {out : Nat} {u : UserSt} {g : KG} (hi : KeyInv u g) (ho : out ≠ mkGotKey := by decide) :
    SesPost (out, u) g :=
  ⟨ho, hi⟩

theorem guardPhase_key (C : Ctx) (S : Shape) (ses : Session) {u' : UserSt} {g : KG}
    (hg : InCall u' g) :
    wp KeySpec (guardPhase C S ses u') SesPost (fun _ _ => True) g := by
  unfold guardPhase
  extract_lets items afterPanic
  have hdropN : OpsIn nonKeyOp (guardDropN C.outer ses.mode items) :=
    guardDropN_opsIn (fun _ _ => trivial) (fun _ => trivial) ..
  have hafter : wp KeySpec afterPanic SesPost (fun _ _ => True) g :=
    keyIgnores.bind (guardDrop_opsIn (fun _ _ => trivial) (fun _ => trivial) ..) (fun _ => trivial) fun _ =>
      kwp_keyDrop hg.flag fun _ => kwp_mark fun _ => sesPost hg.dropped
  refine keyIgnores.bind (readPoison_opsIn (fun _ => trivial) ..) (fun _ => trivial) fun poisoned =>
    kwp_mark fun _ => ?_
  extract_lets out
  have hout : out ≠ mkGotKey := ite_ne
  rw [wp_bindX]
  refine bodySteps_key hg.flag ?_ hafter
  cases ses.exit with
  | forget => exact kwp_keyForget hg.flag fun _ => sesPost hg.forgot hout
  | panic => exact kwp_mark fun _ => hafter
  | unlock =>
    refine keyIgnores.bind hdropN (fun _ => trivial) fun panicked => ?_
    cases panicked
    · exact kwp_mark fun _ => sesPost hg.returned hout
    · exact kwp_keyDrop hg.flag fun _ => kwp_mark fun _ => sesPost hg.dropped
  | drop | ret =>
    exact keyIgnores.bind hdropN (fun _ => trivial) fun panicked =>
      kwp_keyDrop hg.flag fun _ => kwp_mark fun _ => sesPost hg.dropped (ite_ne (hb := hout))

/-- the boundary marks are not the mark `mkGotKey` -/
theorem nonKey_of_boundary (k : Nat) (h : k < mkBody) : nonKeyOp (.mark k) :=
  mark_nonKey (Nat.ne_of_lt (Nat.lt_trans h (by decide : mkBody < mkGotKey)))

theorem guardSession_key (C : Ctx) (S : Shape) (ses : Session) {u : UserSt} {g : KG}
    (hi : KeyInv u g) (hk : u.keys ≠ 0) :
    wp KeySpec (guardSession C S ses u) SesPost (fun _ _ => True) g := by
  have hg := hi.inCall hk
  exact guardSession_cases (keyIgnores.passesHead nonKey_of_lock nonKey_of_boundary)
    (kwp_keyDrop hg.flag fun _ => kwp_mark fun _ => kwp_mark fun _ => sesPost hg.dropped)
    (guardPhase_key C S ses hg) (sesPost hi)

/-- what a scoped call leaves: with an owned key the token is gone and the flag clear, with a
lent key nothing changed -/
def ScopedEnd (ses : Session) (u u' : UserSt) (g g' : KG) : Prop :=
  match ses.key with
  | .owned => u'.keys = 0 ∧ g' = { g with flag := false }
  | .lent => u' = u ∧ g' = g

/-- giving the key back at the end of a scoped call: it is dropped if it was passed by value -/
theorem kwp_dropKeyIf {k : KeyStyle} {cont : Prog Unit α} {Q : α → KG → Prop} {E : Unit → KG → Prop}
    {g : KG} (hf : g.flag = true)
    (h : wp KeySpec cont Q E (match k with | .owned => { g with flag := false } | .lent => g)) :
    wp KeySpec (dropKeyIf k cont) Q E g := by
  cases k
  · exact kwp_keyDrop hf fun _ => h
  · exact h

theorem scopedSessionWith_key (C : Ctx) (S : Shape) (ses : Session) {u u' : UserSt} {g : KG}
    (hi : KeyInv u g) (hk : u.keys ≠ 0)
    (hi' : KeyInv u' (match ses.key with | .owned => { g with flag := false } | .lent => g)) :
    wp KeySpec (scopedSessionWith C S ses u u') SesPost (fun _ _ => True) g := by
  have hf := (hi.inCall hk).flag
  have hrel := ((toRaw_lockOnly C.W S).rel ses.mode).mono nonKey_of_lock
  have hunw : ∀ _ : Unit, wp KeySpec (scopedUnwound ses u') SesPost (fun _ _ => True) g :=
    fun _ => kwp_dropKeyIf hf (kwp_mark fun _ => kwp_mark fun _ => sesPost hi')
  have hheld : wp KeySpec (scopedHeld C S ses u') SesPost (fun _ _ => True) g := by
    unfold scopedHeld
    extract_lets L closure onUnwind
    refine keyIgnores.bind (readPoison_opsIn (fun _ => trivial) ..) (fun _ => trivial) fun poisoned =>
      kwp_mark fun _ => ?_
    have hcatch : OpsIn nonKeyOp onUnwind := by
      unfold onUnwind
      split
      · exact .op _ _ trivial fun _ => hrel
      · exact hrel
    rw [wp_bindX, wp_handle, wp_bind]
    refine bodySteps_key hf ?_ (keyIgnores.frame hcatch hunw hunw)
    split
    · exact kwp_mark fun _ => show wp KeySpec onUnwind _ _ g from keyIgnores.frame hcatch hunw hunw
    · exact keyIgnores.bindX hrel hunw fun _ =>
        kwp_dropKeyIf hf (kwp_mark fun _ => kwp_mark fun _ => sesPost hi' ite_ne)
  exact scopedSessionWith_cases (keyIgnores.passesHead nonKey_of_lock nonKey_of_boundary) (hunw ()) hheld (sesPost hi)

theorem scopedSession_key (C : Ctx) (S : Shape) (ses : Session) {u : UserSt} {g : KG}
    (hi : KeyInv u g) (hk : u.keys ≠ 0) :
    wp KeySpec (scopedSession C S ses u) SesPost (fun _ _ => True) g := by
  unfold scopedSession
  refine scopedSessionWith_key C S ses hi hk ?_
  cases ses.key
  · exact (hi.inCall hk).dropped
  · exact hi

theorem session_key (C : Ctx) (ses : Session) {u : UserSt} {g : KG} (hi : KeyInv u g) :
    wp KeySpec (session C ses u) SesPost (fun _ _ => True) g :=
  session_cases (M := fun p => wp KeySpec p SesPost (fun _ _ => True) g) C ses u (fun _ => sesPost hi)
    (guardSession_key C _ ses hi) (scopedSession_key C _ ses hi)

/-- **Key refinement, one statement**: the invariant between the key tokens the program owns
and the thread's flag is preserved by every statement on every answer sequence. -/
theorem stmt_key (C : Ctx) (st : Stmt) {u : UserSt} {g : KG} (hi : KeyInv u g) :
    wp KeySpec (stmt C st u) KeyInv (fun _ _ => True) g := by
  cases st with
  | ses ses =>
    exact (session_key C ses hi).bind fun r g' h => kwp_mark (fun _ => h.2) h.1
  | get =>
    refine kwp_keyGet (fun hf => kwp_mark fun _ => ?_) fun _ => kwp_mark fun _ => hi
    -- the flag is clear: no token exists, the new one is the only one
    obtain ⟨hk0, hl⟩ := hi.flag_false_iff.1 hf
    exact InCall.returned ⟨hk0, rfl, hl⟩
  | dropKey =>
    simp only [stmt]
    split
    · exact kwp_mark fun _ => hi
    · next hk =>
      have hg := hi.inCall hk
      exact kwp_keyDrop hg.flag fun _ => kwp_mark fun _ => hg.dropped
  | forgetKey =>
    simp only [stmt]
    split
    · exact kwp_mark fun _ => hi
    · next hk =>
      have hg := hi.inCall hk
      exact kwp_keyForget hg.flag fun _ => kwp_mark fun _ => hg.forgot
  | dbg c bomb =>
    exact kwp_mark fun _ => keyIgnores.bindX (debugFmt_nonKey _ _)
      (fun _ => kwp_mark fun _ => kwp_mark fun _ => hi) fun _ => kwp_mark fun _ => kwp_mark fun _ => hi
  | isPoisoned c =>
    simp only [stmt]
    split
    · exact keyIgnores.op trivial fun r => kwp_mark (fun _ => hi) ite_ne
    · exact kwp_mark fun _ => hi
  | clearPoison c =>
    simp only [stmt]
    split
    · exact keyIgnores.op trivial fun r => kwp_mark fun _ => hi
    · exact kwp_mark fun _ => hi
  | tryNew kind s => exact kwp_mark (fun _ => hi) ite_ne

theorem program_key (C : Ctx) (prog : List Stmt) {u : UserSt} {g : KG} (hi : KeyInv u g) :
    wp KeySpec (program C prog u) KeyInv (fun (_ : Unit) (_ : KG) => True) g := by
  induction prog generalizing u g with
  | nil => exact hi
  | cons st prog ih => exact (stmt_key C st hi).bind fun _ _ => ih

end HLV
