/-
  HLV.Logic.Deadlock — the system invariant tying the threads' ghost states to the raw-lock
  table, its preservation by every step of every thread, and the progress argument: no
  reachable state has every running thread waiting for a lock (C01), under both wake policies;
  plus what the invariant says about who may be inside a section (C02, C05).

  The invariant is a condition on every thread's code and, for every lock, the agreement of
  ghost states and table at that lock (`LockInv`). A step changes one thread and at most one
  lock: that lock by `LockInv.take` / `release` / `wait`, every other lock by `LockInv.frame`.
-/
import HLV.Model.Conc
import HLV.Logic.Hold
import HLV.Logic.EnvStep
namespace HLV

/-- The system invariant: every thread's remaining code obeys the hold + rank discipline from
its ghost state, and the ghost states are exactly what the table says. -/
structure SysInv (ro : RankOpt) (N : Nat) (s : Sys) (H : Tid → HG) : Prop where
  code : ∀ t, wp (HoldSpec 0 ro) (s.thr t) (fun _ g => g.held = Held.empty) (fun _ _ => False) (H t)
  alive : ∀ x, (s.env.locks x).killed = false
  excl : ∀ x t, (H t).held x .excl = if (s.env.locks x).writer = some t then 1 else 0
  shared : ∀ x t, (H t).held x .shared = (s.env.locks x).readers.count t
  waiters : ∀ x t, t ∈ (s.env.locks x).waitW → ∃ k, s.thr t = .op (.acq .excl true x) k
  waitNodup : ∀ x, (s.env.locks x).waitW.Nodup
  idle : ∀ t, N ≤ t → s.thr t = .done ()

theorem step_holdAdm {pol : Policy} {e e' : Env} {t : Tid} {o : Op} {r : Resp} {ev : Ev} (g : HG)
    (hk : ∀ x, (e.locks x).killed = false) (h : e.step pol t o false = .stepped r e' ev) :
    holdAdm 0 g o r := by
  cases o with
  | acq m b x =>
    obtain ⟨rfl, -⟩ | ⟨rfl, rfl, -⟩ := Env.step_acq_answered (hk x) h
    · cases b <;> simp [holdAdm]
    · simp [holdAdm]
  | rel m x => cases h; simp [holdAdm]
  | access x w => cases w <;> cases h <;> rfl
  | keyGet => simp only [Env.step] at h; split at h <;> cases h <;> simp [holdAdm]
  | poisonGet p => cases h; simp only [holdAdm]; split <;> simp
  | _ => cases h; rfl

/-- the part of the invariant that speaks of one lock, `x` in state `st`: it is alive, every
thread's ghost holds of `x` are the ones the table records, the waiting writers are waiting -/
structure LockInv (thr : Tid → Prog Unit Unit) (H : Tid → HG) (x : LockId) (st : LockSt) : Prop where
  alive : st.killed = false
  held : ∀ t m, (H t).held x m = st.count t m
  waiters : ∀ t, t ∈ st.waitW → ∃ k, thr t = .op (.acq .excl true x) k
  nodup : st.waitW.Nodup

namespace LockInv
variable {thr : Tid → Prog Unit Unit} {H : Tid → HG} {x : LockId} {st : LockSt} {t : Tid}

theorem waiting_op (h : LockInv thr H x st) {o : Op} {k : Resp → Prog Unit Unit}
    (hc : thr t = .op o k) (hm : t ∈ st.waitW) : o = .acq .excl true x := by
  obtain ⟨k', hk'⟩ := h.waiters t hm
  rw [hc] at hk'
  cases hk'
  rfl

theorem frame (h : LockInv thr H x st) {o : Op} {k : Resp → Prog Unit Unit} (hc : thr t = .op o k)
    (ho : o ≠ .acq .excl true x) (p' : Prog Unit Unit) {g' : HG} (hheld : g'.held x = (H t).held x) :
    LockInv (fun u => if u = t then p' else thr u) (fun u => if u = t then g' else H u) x st where
  alive := h.alive
  held u m := by
    by_cases hu : u = t
    · simp only [hu, if_true, hheld]; exact h.held t m
    · simp only [hu, if_false]; exact h.held u m
  waiters u hu := by
    have hne : u ≠ t := fun e => ho (h.waiting_op hc (e ▸ hu))
    simp only [hne, if_false]; exact h.waiters u hu
  nodup := h.nodup

/-- `t` does something that is no acquisition, release or kill: at most the datum changes -/
theorem neutral (h : LockInv thr H x st) {pol : Policy} {o : Op} {k : Resp → Prog Unit Unit}
    (hc : thr t = .op o k) (hacq : ∀ m b x, o ≠ .acq m b x) (hrel : ∀ m x, o ≠ .rel m x)
    (hkill : ∀ x, o ≠ .kill x) {st' : LockSt} (hs : LockStep pol t o false x st st')
    (p' : Prog Unit Unit) (r : Resp) :
    LockInv (fun u => if u = t then p' else thr u)
      (fun u => if u = t then holdUpd (H t) o r else H u) x st' := by
  have hfr := h.frame hc (hacq _ _ _) p' (congrFun (holdUpd_held_other (H t) r hacq hrel) x)
  cases hs with
  | same => exact hfr
  | value v => exact ⟨hfr.alive, hfr.held, hfr.waiters, hfr.nodup⟩  -- the datum is no part of the invariant
  | killed h => exact (h.elim Bool.noConfusion (hkill x)).elim
  | take m b h => exact absurd h (hacq m b x)
  | release m h => exact absurd h (hrel m x)
  | wait h => exact absurd h (hacq _ _ _)

/-- `t` is granted `x` in mode `m`: one more hold in the ghost and in the table; a writer that
was registered as waiting is registered no longer -/
theorem take (h : LockInv thr H x st) {pol : Policy} {m : Mode} {b : Bool} {k : Resp → Prog Unit Unit}
    (hc : thr t = .op (.acq m b x) k) (hg : grantable pol st m = true) (p' : Prog Unit Unit) {g' : HG}
    (hheld : g'.held = (H t).held.add x m) :
    LockInv (fun u => if u = t then p' else thr u) (fun u => if u = t then g' else H u) x
      (st.take t m) where
  alive := by rw [LockSt.take_killed]; exact h.alive
  held u m' := by
    rw [LockSt.count_take hg, ← h.held u m']
    by_cases hu : u = t
    · simp only [hu, if_true, hheld, Held.add_apply, true_and]
    · simp only [hu, Ne.symm hu, if_false, false_and, Nat.add_zero]
  waiters u hu := by
    have hmem := (LockSt.take_waitW_sublist st t m).mem hu
    have hne : u ≠ t := by
      intro e; subst e
      -- a waiting `t` sits at an exclusive acquisition: the grant has erased it from the list, once
      cases h.waiting_op hc hmem
      exact h.nodup.not_mem_erase hu
    simp only [hne, if_false]; exact h.waiters u hmem
  nodup := (LockSt.take_waitW_sublist st t m).nodup h.nodup

theorem release (h : LockInv thr H x st) {m : Mode} {k : Resp → Prog Unit Unit}
    (hc : thr t = .op (.rel m x) k) (hpos : 0 < (H t).held x m) (p' : Prog Unit Unit) {g' : HG}
    (hheld : g'.held = (H t).held.sub x m) :
    LockInv (fun u => if u = t then p' else thr u) (fun u => if u = t then g' else H u) x
      (st.release t m) where
  alive := by rw [LockSt.release_killed]; exact h.alive
  held u m' := by
    rw [LockSt.count_release (h.held t m ▸ hpos), ← h.held u m']
    by_cases hu : u = t
    · simp only [hu, if_true, hheld, Held.sub_apply, true_and]
    · simp only [hu, Ne.symm hu, if_false, false_and, Nat.sub_zero]
  waiters u hu := by
    rw [LockSt.release_waitW] at hu
    have hne : u ≠ t := fun e => nomatch h.waiting_op hc (e ▸ hu)
    simp only [hne, if_false]; exact h.waiters u hu
  nodup := by rw [LockSt.release_waitW]; exact h.nodup

theorem wait (h : LockInv thr H x st) {k : Resp → Prog Unit Unit}
    (hc : thr t = .op (.acq .excl true x) k) (hnw : t ∉ st.waitW) :
    LockInv thr H x { st with waitW := t :: st.waitW } where
  alive := h.alive
  held := h.held
  waiters u hu := by
    rcases List.mem_cons.1 hu with rfl | hu
    · exact ⟨k, hc⟩
    · exact h.waiters u hu
  nodup := List.nodup_cons.2 ⟨hnw, h.nodup⟩

end LockInv

variable {ro : RankOpt} {rank : LockId → Nat} {N : Nat}

namespace SysInv
variable {s : Sys} {H : Tid → HG}

/-! `SysInv` states the invariant field by field over all locks (it is what the theorems of C01, C02
and C05 mention); a step changes one lock, so the proofs take it lock by lock: `lock` and `of_locks`
go back and forth. -/

theorem lock (hi : SysInv ro N s H) (x : LockId) : LockInv s.thr H x (s.env.locks x) where
  alive := hi.alive x
  held t m := by
    cases m
    · exact hi.shared x t
    · exact hi.excl x t
  waiters := hi.waiters x
  nodup := hi.waitNodup x

theorem of_locks (code : ∀ t, wp (HoldSpec 0 ro) (s.thr t) (fun _ g => g.held = Held.empty)
      (fun _ _ => False) (H t)) (idle : ∀ t, N ≤ t → s.thr t = .done ())
    (h : ∀ x, LockInv s.thr H x (s.env.locks x)) : SysInv ro N s H :=
  ⟨code, fun x => (h x).alive, fun x t => (h x).held t .excl, fun x t => (h x).held t .shared,
    fun x => (h x).waiters, fun x => (h x).nodup, idle⟩

theorem writer_of_held (hi : SysInv ro N s H) {t : Tid} {x : LockId} (h : 0 < (H t).held x .excl) :
    (s.env.locks x).writer = some t := LockSt.count_pos_excl.1 ((hi.lock x).held t .excl ▸ h)

theorem reader_of_held (hi : SysInv ro N s H) {t : Tid} {x : LockId} (h : 0 < (H t).held x .shared) :
    t ∈ (s.env.locks x).readers := LockSt.count_pos_shared.1 ((hi.lock x).held t .shared ▸ h)

theorem held_of_done (hi : SysInv ro N s H) {t : Tid} {a : Unit} (hc : s.thr t = .done a) :
    (H t).held = Held.empty := by
  have hcode := hi.code t
  rw [hc] at hcode
  exact hcode

theorem lt_of_running (hi : SysInv ro N s H) {t : Tid} {o : Op} {k : Resp → Prog Unit Unit}
    (hc : s.thr t = .op o k) : t < N :=
  Nat.lt_of_not_le fun h => by have := hi.idle t h; rw [hc] at this; cases this

end SysInv

theorem Sys.step_cases {pol : Policy} {s s' : Sys} {t : Tid} (h : s.step pol t = some s') :
    ∃ o k, s.thr t = .op o k ∧
      ((∃ r e' ev, s.env.step pol t o false = .stepped r e' ev ∧
          s' = { env := e', thr := fun u => if u = t then k r else s.thr u }) ∨
       (∃ e', s.env.step pol t o false = .blocked e' ∧ s' = { env := e', thr := s.thr })) := by
  unfold Sys.step at h
  split at h
  · next o k hc =>
    refine ⟨o, k, hc, ?_⟩
    split at h
    · next r e' ev hst => cases h; exact .inl ⟨r, e', ev, hst, rfl⟩
    · next e' hst => cases h; exact .inr ⟨e', hst, rfl⟩
  · cases h

theorem Sys.step_env {pol : Policy} {s s' : Sys} {t : Tid} (h : s.step pol t = some s') :
    ∃ o k, s.thr t = .op o k ∧ s'.env = (s.env.step pol t o false).env := by
  obtain ⟨o, k, hc, ⟨r, e', ev, hst, rfl⟩ | ⟨e', hst, rfl⟩⟩ := Sys.step_cases h <;>
    exact ⟨o, k, hc, by rw [hst]; rfl⟩

theorem Sys.blocked_acq {pol : Policy} {s : Sys} {t : Tid} (h : s.blocked pol t) :
    ∃ m x k, s.thr t = .op (.acq m true x) k ∧ grantable pol (s.env.locks x) m = false := by
  obtain ⟨o, k, e', hc, hs⟩ := h
  obtain ⟨m, x, rfl, -, hg, -⟩ := Env.step_blocked hs
  exact ⟨m, x, k, hc, hg⟩

/-- **Preservation.** Every step of every thread, under either policy, keeps the invariant. -/
theorem SysInv.step (pol : Policy) {s s' : Sys} {H : Tid → HG} (hi : SysInv ro N s H) (t : Tid)
    (hs : s.step pol t = some s') : ∃ H', SysInv ro N s' H' := by
  obtain ⟨o, k, hc, hres⟩ := Sys.step_cases hs
  have hw := hi.code t
  rw [hc] at hw
  rcases hres with ⟨r, e', ev, hst, rfl⟩ | ⟨e', hst, rfl⟩
  · -- answered `r`, which is admissible: the ghost of `t` moves by `holdUpd`. It is enough that
    -- every lock agrees with the new ghost states.
    suffices h : ∀ y, LockInv (fun u => if u = t then k r else s.thr u)
        (fun u => if u = t then holdUpd (H t) o r else H u) y (e'.locks y) by
      refine ⟨_, .of_locks (fun u => ?_) (fun u hu => ?_) h⟩
      · by_cases hu : u = t
        · simp only [hu, if_true]; exact hw.2 r (step_holdAdm (H t) hi.alive hst)
        · simp only [hu, if_false]; exact hi.code u
      · have hne : u ≠ t := fun e => Nat.not_lt.2 hu (e ▸ hi.lt_of_running hc)
        simp only [hne, if_false]; exact hi.idle u hu
    cases o with
    | acq m b x =>
      obtain ⟨rfl, hg, rfl⟩ | ⟨rfl, rfl, rfl⟩ := Env.step_acq_answered (hi.alive x) hst
      · refine Env.forall_setLock ((hi.lock x).take hc hg _ rfl) fun y hy => ?_
        refine (hi.lock y).frame hc (fun e => by cases e; exact hy rfl) _ (funext fun m' => ?_)
        exact (Held.add_apply ..).trans (by simp [Ne.symm hy])
      · exact fun y => (hi.lock y).frame hc nofun _ rfl
    | rel m x =>
      obtain ⟨rfl, rfl⟩ := Env.step_rel_answered hst
      refine Env.forall_setLock ((hi.lock x).release hc hw.1 _ rfl) fun y hy => ?_
      refine (hi.lock y).frame hc nofun _ (funext fun m' => ?_)
      exact (Held.sub_apply ..).trans (by simp [Ne.symm hy])
    | kill x => exact hw.1.elim
    -- the other operations are no acquisition, release or kill (the three `nofun`)
    | _ => exact fun y => (hi.lock y).neutral hc nofun nofun nofun (hst ▸ Env.step_locks pol s.env t _ false y) _ r
  · -- refused: a blocking acquisition; at most `t` is registered as a waiting writer
    obtain ⟨m, x, rfl, -, -, rfl⟩ := Env.step_blocked hst
    obtain h | ⟨rfl, hnr, h⟩ := blockedEnv_cases pol s.env t m x
    · rw [h]; exact ⟨H, hi⟩
    · rw [h]
      exact ⟨H, .of_locks hi.code hi.idle (Env.forall_setLock ((hi.lock x).wait hc hnr) fun y _ => hi.lock y)⟩

theorem reachable_inv (pol : Policy) {init s : Sys} {H₀ : Tid → HG} (h0 : SysInv ro N init H₀)
    (hr : Reachable pol init s) : ∃ H, SysInv ro N s H := by
  induction hr with
  | init => exact ⟨H₀, h0⟩
  | step t _ hs ih =>
    obtain ⟨H, hi⟩ := ih
    exact hi.step pol t hs

/-- the rank of the lock a thread is about to block on (0 if it is not at a blocking acquisition) -/
def tgtRank (rank : LockId → Nat) (s : Sys) (t : Tid) : Nat :=
  match s.thr t with
  | .op (.acq _ true x) _ => rank x
  | _ => 0

theorem exists_max_below (f : Nat → Nat) (P : Nat → Prop) (N : Nat) (h : ∃ t, t < N ∧ P t) :
    ∃ t, t < N ∧ P t ∧ ∀ u, u < N → P u → f u ≤ f t := by
  have : DecidablePred P := fun _ => Classical.propDecidable _
  have hmem : ∀ a, a ∈ ((List.range N).filter P).map f ↔ ∃ t, (t < N ∧ P t) ∧ f t = a := by simp
  obtain ⟨t0, h0⟩ := h
  cases hm : (((List.range N).filter P).map f).max? with
  | none =>
    rw [List.max?_eq_none_iff] at hm
    exact absurd ((hmem _).2 ⟨t0, h0, rfl⟩) (hm ▸ List.not_mem_nil)
  | some a =>
    obtain ⟨ha, hmax⟩ := List.max?_eq_some_iff.1 hm
    obtain ⟨t, ht, rfl⟩ := (hmem _).1 ha
    exact ⟨t, ht.1, ht.2, fun u hu hP => hmax _ ((hmem _).2 ⟨u, ⟨hu, hP⟩, rfl⟩)⟩

/-- **Progress (C01).** In a state satisfying the invariant, in which no thread has exhausted
its retry fuel or died, if some thread is still running then some running thread is not
waiting for a lock — for any number of threads and under either wake policy. -/
theorem no_deadlock (pol : Policy) {s : Sys} {H : Tid → HG} (hi : SysInv (some rank) N s H)
    (hns : ∀ t, s.thr t ≠ .spin ∧ s.thr t ≠ .abort)
    (hrun : ∃ t, s.running t) : ∃ t, s.running t ∧ ¬ s.blocked pol t := by
  apply Classical.byContradiction
  intro hcon
  -- then every running thread is at a blocking acquisition that cannot be granted
  have hwait : ∀ t, s.running t → ∃ m x k, s.thr t = .op (.acq m true x) k ∧
      grantable pol (s.env.locks x) m = false :=
    fun t ht => Sys.blocked_acq (Classical.byContradiction fun hb => hcon ⟨t, ht, hb⟩)
  -- whoever holds a lock is running, hence waiting, and for a lock of higher rank
  have hholder : ∀ t x m, 0 < (s.env.locks x).count t m →
      ∃ m' x' k', s.thr t = .op (.acq m' true x') k' ∧ rank x < rank x' := by
    intro t x m hpos
    rw [← (hi.lock x).held] at hpos
    have hcode := hi.code t
    cases hc : s.thr t with
    | done a =>
      rw [hi.held_of_done hc] at hpos
      exact absurd hpos (Nat.lt_irrefl 0)
    | unwind e => rw [hc] at hcode; exact hcode.elim
    | spin => exact absurd hc (hns t).1
    | abort => exact absurd hc (hns t).2
    | op o k =>
      obtain ⟨m', x', k', hc', -⟩ := hwait t ⟨o, k, hc⟩
      rw [hc'] at hcode
      exact ⟨m', x', k', hc.symm.trans hc', hcode.1.2 x m hpos⟩
  -- a lock that cannot be granted is held by somebody
  have hheld : ∀ m x, grantable pol (s.env.locks x) m = false →
      ∃ t m', 0 < (s.env.locks x).count t m' := by
    intro m x hg
    rcases exists_count_of_not_grantable hg with h | ⟨-, hne⟩
    · exact h
    · -- a registered writer is waiting: it cannot be granted the lock either, so the lock is not free
      obtain ⟨w, hw⟩ := List.exists_mem_of_ne_nil _ hne
      obtain ⟨kw, hcw⟩ := hi.waiters x w hw
      obtain ⟨m', x', k', hc', hg'⟩ := hwait w ⟨_, _, hcw⟩
      rw [hcw] at hc'
      cases hc'
      exact LockSt.exists_count_of_not_free hg'
  -- the running thread whose awaited lock ranks highest: the holder of that lock awaits a higher one
  obtain ⟨t0, o0, k0, hc0⟩ := hrun
  obtain ⟨t, -, ht, hmax⟩ := exists_max_below (tgtRank rank s) s.running N
    ⟨t0, hi.lt_of_running hc0, o0, k0, hc0⟩
  obtain ⟨m, x, k, hc, hg⟩ := hwait t ht
  obtain ⟨t', m', hpos⟩ := hheld m x hg
  obtain ⟨m'', x'', k'', hc'', hlt⟩ := hholder t' x m' hpos
  have := hmax t' (hi.lt_of_running hc'') ⟨_, _, hc''⟩
  simp only [tgtRank, hc, hc''] at this
  exact absurd hlt (Nat.not_lt.2 this)

end HLV
