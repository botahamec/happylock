/-
  HLV.Logic.EnvStep — what one step of the table semantics (`Env.step`) does, stated once: the
  equations of an acquisition (`Env.step_acq_killed`, `step_acq_fault`, `step_acq`), what a step
  can do to a single lock (`LockStep`, `Env.step_locks`), when it refuses to step
  (`Env.step_blocked`), and what it answers to an acquisition or release that goes through. The
  properties about the table are case analyses on `LockStep`. `LockSt.count` is the table's own
  record of who holds what, in the form the ghost states of `Logic/Deadlock.lean` are compared with.
-/
import HLV.Model.Env
namespace HLV

namespace LockSt

@[simp] theorem take_killed (s : LockSt) (t : Tid) (m : Mode) : (s.take t m).killed = s.killed := by
  cases m <;> rfl
@[simp] theorem take_value (s : LockSt) (t : Tid) (m : Mode) : (s.take t m).value = s.value := by
  cases m <;> rfl
@[simp] theorem release_killed (s : LockSt) (t : Tid) (m : Mode) :
    (s.release t m).killed = s.killed := by
  cases m <;> rfl
@[simp] theorem release_value (s : LockSt) (t : Tid) (m : Mode) :
    (s.release t m).value = s.value := by
  cases m <;> rfl
@[simp] theorem release_waitW (s : LockSt) (t : Tid) (m : Mode) :
    (s.release t m).waitW = s.waitW := by
  cases m <;> rfl

theorem take_waitW_sublist (s : LockSt) (t : Tid) (m : Mode) : (s.take t m).waitW.Sublist s.waitW := by
  cases m
  · exact List.Sublist.refl _
  · exact List.erase_sublist

/-- how many holds of mode `m` the table records for thread `u` -/
def count (s : LockSt) (u : Tid) : Mode → Nat
  | .excl => if s.writer = some u then 1 else 0
  | .shared => s.readers.count u

theorem grantable_writer {pol : Policy} {s : LockSt} {m : Mode} (hg : grantable pol s m = true) :
    s.writer = none := by
  cases m <;> simp only [grantable, free, Bool.and_eq_true, Option.isNone_iff_eq_none] at hg <;>
    exact hg.1

theorem grantable_excl_readers {pol : Policy} {s : LockSt} (hg : grantable pol s .excl = true) :
    s.readers = [] := by
  simp only [grantable, free, Bool.and_eq_true, List.isEmpty_iff] at hg
  exact hg.2

theorem release_take {pol : Policy} {s : LockSt} {t : Tid} {m : Mode} (hg : grantable pol s m = true)
    (hw : t ∉ s.waitW) : (s.take t m).release t m = s := by
  cases m with
  | shared => simp [take, release]
  | excl => simp [take, release, List.erase_of_not_mem hw, ← grantable_writer hg]

@[simp] theorem count_excl (s : LockSt) (u : Tid) :
    s.count u .excl = if s.writer = some u then 1 else 0 := rfl
@[simp] theorem count_shared (s : LockSt) (u : Tid) : s.count u .shared = s.readers.count u := rfl

theorem count_pos_excl {s : LockSt} {u : Tid} : 0 < s.count u .excl ↔ s.writer = some u := by
  rw [count_excl]; split <;> simp [*]

theorem count_pos_shared {s : LockSt} {u : Tid} : 0 < s.count u .shared ↔ u ∈ s.readers :=
  List.count_pos_iff

/-- a grant adds one hold of the new holder in the granted mode and nothing else (an exclusive
grant finds no writer) -/
theorem count_take {pol : Policy} {s : LockSt} {m : Mode} (hg : grantable pol s m = true)
    (t u : Tid) (m' : Mode) :
    (s.take t m).count u m' = s.count u m' + if t = u ∧ m = m' then 1 else 0 := by
  have hw := grantable_writer hg
  cases m <;> cases m' <;> simp [take, hw, List.count_cons]

/-- a release by a holder removes one hold of the releaser in that mode and nothing else (the
writer that goes is the releaser) -/
theorem count_release {s : LockSt} {t : Tid} {m : Mode} (hh : 0 < s.count t m) (u : Tid)
    (m' : Mode) : (s.release t m).count u m' = s.count u m' - if t = u ∧ m = m' then 1 else 0 := by
  cases m with
  | shared => cases m' <;> simp [release, List.count_erase]
  | excl =>
    have hw := count_pos_excl.1 hh
    cases m' <;> simp [release, hw]

theorem exists_count_of_not_free {s : LockSt} (h : s.free = false) : ∃ u m, 0 < s.count u m := by
  simp only [free, Bool.and_eq_false_iff, Option.isNone_eq_false_iff,
    List.isEmpty_eq_false_iff] at h
  rcases h with hw | hr
  · obtain ⟨w, hw⟩ := Option.isSome_iff_exists.1 hw
    exact ⟨w, .excl, count_pos_excl.2 hw⟩
  · obtain ⟨r, hr⟩ := List.exists_mem_of_ne_nil _ hr
    exact ⟨r, .shared, count_pos_shared.2 hr⟩

end LockSt

theorem exists_count_of_not_grantable {pol : Policy} {s : LockSt} {m : Mode}
    (h : grantable pol s m = false) : (∃ u m', 0 < s.count u m') ∨ (m = .shared ∧ s.waitW ≠ []) := by
  cases m with
  | excl => exact .inl (LockSt.exists_count_of_not_free h)
  | shared =>
    simp only [grantable, Bool.and_eq_false_iff, Option.isNone_eq_false_iff] at h
    rcases h with hw | hp
    · obtain ⟨w, hw⟩ := Option.isSome_iff_exists.1 hw
      exact .inl ⟨w, .excl, LockSt.count_pos_excl.2 hw⟩
    · cases pol with
      | readerPref => cases hp
      | writerPref => exact .inr ⟨rfl, by simpa using hp⟩

namespace Env

theorem setLock_locks (e : Env) (x y : LockId) (s : LockSt) :
    (e.setLock x s).locks y = if y = x then s else e.locks y := rfl

theorem forall_setLock {P : LockId → LockSt → Prop} {e : Env} {x : LockId} {s : LockSt}
    (hx : P x s) (hy : ∀ y, y ≠ x → P y (e.locks y)) (y : LockId) : P y ((e.setLock x s).locks y) := by
  rw [setLock_locks]
  split
  · next h => exact h ▸ hx
  · next h => exact hy y h

end Env

/-- the table after a blocking acquisition was refused: under the writer-preferring policy a writer
is registered as waiting (once) -/
def blockedEnv (pol : Policy) (e : Env) (t : Tid) (m : Mode) (x : LockId) : Env :=
  match pol, m with
  | .writerPref, .excl =>
    if (e.locks x).waitW.contains t then e
    else e.setLock x { (e.locks x) with waitW := t :: (e.locks x).waitW }
  | _, _ => e

theorem blockedEnv_cases (pol : Policy) (e : Env) (t : Tid) (m : Mode) (x : LockId) :
    blockedEnv pol e t m x = e ∨ m = .excl ∧ t ∉ (e.locks x).waitW ∧
      blockedEnv pol e t m x = e.setLock x { e.locks x with waitW := t :: (e.locks x).waitW } := by
  unfold blockedEnv
  split
  · by_cases hc : t ∈ (e.locks x).waitW
    · exact .inl (if_pos (List.contains_iff_mem.2 hc))
    · exact .inr ⟨rfl, hc, if_neg (mt List.contains_iff_mem.1 hc)⟩
  · exact .inl rfl

/-! ### `Env.step` on an acquisition, one equation per way through its tests

(a release is `step` read off its definition: `cases fault` and `rfl`) -/

namespace Env
variable {pol : Policy} {e : Env} {t : Tid} {m : Mode} {x : LockId}

theorem step_acq_killed (b fault : Bool) (hk : (e.locks x).killed = true) :
    e.step pol t (.acq m b x) fault = .stepped (if b then .panic else .no) e
      { tid := t, op := .acq m b x, resp := if b then .panic else .no, raw := false } :=
  if_pos hk

theorem step_acq_fault (b : Bool) (hk : (e.locks x).killed = false) :
    e.step pol t (.acq m b x) true = .stepped .panic (e.setLock x { e.locks x with killed := true })
      { tid := t, op := .acq m b x, resp := .panic } :=
  (if_neg (Bool.eq_false_iff.1 hk)).trans (if_pos rfl)

theorem step_acq (b : Bool) (hk : (e.locks x).killed = false) :
    e.step pol t (.acq m b x) false =
      if grantable pol (e.locks x) m then
        .stepped .ok (e.setLock x ((e.locks x).take t m)) { tid := t, op := .acq m b x, resp := .ok }
      else if b then .blocked (blockedEnv pol e t m x)
      else .stepped .no e { tid := t, op := .acq m b x, resp := .no } := by
  refine (if_neg (Bool.eq_false_iff.1 hk)).trans ((if_neg Bool.false_ne_true).trans ?_)
  -- what is left of `step` is the right-hand side with `blockedEnv` written out as a `match`
  refine ite_congr rfl (fun _ => rfl) fun _ => ite_congr rfl (fun _ => ?_) fun _ => rfl
  cases pol <;> cases m <;> rfl

end Env

/-- What a step of thread `t` issuing `o` (with or without a raw fault) can do to the state `s`
of lock `y`, each change with its cause. -/
inductive LockStep (pol : Policy) (t : Tid) (o : Op) (fault : Bool) (y : LockId) (s : LockSt) :
    LockSt → Prop
  | same : LockStep pol t o fault y s s
  | killed : fault = true ∨ o = .kill y → LockStep pol t o fault y s { s with killed := true }
  | take (m : Mode) (b : Bool) : o = .acq m b y → s.killed = false → fault = false →
      grantable pol s m = true → LockStep pol t o fault y s (s.take t m)
  | release (m : Mode) : o = .rel m y → fault = false → LockStep pol t o fault y s (s.release t m)
  | value (v : Nat) : o = .access y (some v) → LockStep pol t o fault y s { s with value := v }
  | wait : o = .acq .excl true y → LockStep pol t o fault y s { s with waitW := t :: s.waitW }

theorem LockStep.setLock {pol : Policy} {t : Tid} {o : Op} {fault : Bool} {e : Env} {x : LockId}
    {s' : LockSt} (h : LockStep pol t o fault x (e.locks x) s') (y : LockId) :
    LockStep pol t o fault y (e.locks y) ((e.setLock x s').locks y) :=
  Env.forall_setLock (P := fun y s' => LockStep pol t o fault y (e.locks y) s') h (fun _ _ => .same) y

theorem LockStep.killed_eq {pol : Policy} {t : Tid} {o : Op} {fault : Bool} {y : LockId} {s s' : LockSt}
    (h : LockStep pol t o fault y s s') :
    s'.killed = s.killed ∨ s'.killed = true ∧ (fault = true ∨ o = .kill y) := by
  cases h with
  | killed h => exact .inr ⟨rfl, h⟩
  | take m => exact .inl (LockSt.take_killed ..)
  | release m => exact .inl (LockSt.release_killed ..)
  | _ => exact .inl rfl

namespace Env

theorem step_locks (pol : Policy) (e : Env) (t : Tid) (o : Op) (fault : Bool) (y : LockId) :
    LockStep pol t o fault y (e.locks y) ((e.step pol t o fault).env.locks y) := by
  cases o with
  | acq m b x =>
    cases hk : (e.locks x).killed with
    | true => rw [step_acq_killed b fault hk]; exact .same
    | false =>
      cases fault with
      | true => rw [step_acq_fault b hk]; exact (LockStep.killed (.inl rfl)).setLock y
      | false =>
        rw [step_acq b hk]
        split
        · next hg => exact (LockStep.take m b rfl hk rfl hg).setLock y
        · split
          · next hb =>
            subst hb
            obtain h | ⟨rfl, -, h⟩ := blockedEnv_cases pol e t m x
            · rw [StepRes.env, h]; exact .same
            · rw [StepRes.env, h]; exact (LockStep.wait rfl).setLock y
          · exact .same
  | rel m x =>
    cases fault with
    | true => exact (LockStep.killed (.inl rfl)).setLock y
    | false => exact (LockStep.release m rfl rfl).setLock y
  | kill x => exact (LockStep.killed (.inr rfl)).setLock y
  | access x w =>
    cases w with
    | none => exact .same
    | some v => exact (LockStep.value v rfl).setLock y
  | keyGet => simp only [step]; split <;> exact .same
  | _ => exact .same

theorem step_blocked {pol : Policy} {e : Env} {t : Tid} {o : Op} {fault : Bool} {e' : Env}
    (h : e.step pol t o fault = .blocked e') :
    ∃ m x, o = .acq m true x ∧ (e.locks x).killed = false ∧ grantable pol (e.locks x) m = false ∧
      e' = blockedEnv pol e t m x := by
  cases o with
  | acq m b x =>
    cases hk : (e.locks x).killed with
    | true => rw [step_acq_killed b fault hk] at h; cases h
    | false =>
      cases fault with
      | true => rw [step_acq_fault b hk] at h; cases h
      | false =>
        rw [step_acq b hk] at h
        split at h
        · cases h
        · next hg =>
          split at h
          · next hb =>
            subst hb
            cases h
            exact ⟨m, x, rfl, hk, Bool.eq_false_iff.2 hg, rfl⟩
          · cases h
  | rel m x => cases fault <;> cases h
  | access x w => cases w <;> cases h
  | keyGet => simp only [step] at h; split at h <;> cases h
  | _ => cases h

theorem step_acq_answered {pol : Policy} {e e' : Env} {t : Tid} {m : Mode} {b : Bool} {x : LockId}
    {r : Resp} {ev : Ev} (hk : (e.locks x).killed = false)
    (h : e.step pol t (.acq m b x) false = .stepped r e' ev) :
    (r = .ok ∧ grantable pol (e.locks x) m = true ∧ e' = e.setLock x ((e.locks x).take t m)) ∨
    (r = .no ∧ b = false ∧ e' = e) := by
  rw [step_acq b hk] at h
  split at h
  · next hg => cases h; exact .inl ⟨rfl, hg, rfl⟩
  · split at h
    · cases h
    · next hb => cases h; exact .inr ⟨rfl, Bool.eq_false_iff.2 hb, rfl⟩

theorem step_rel_answered {pol : Policy} {e e' : Env} {t : Tid} {m : Mode} {x : LockId} {r : Resp}
    {ev : Ev} (h : e.step pol t (.rel m x) false = .stepped r e' ev) :
    r = .ok ∧ e' = e.setLock x ((e.locks x).release t m) := by
  cases h; exact ⟨rfl, rfl⟩

end Env

end HLV
