/-
  HLV.Logic.Body — "the scoped closure is invoked exactly once if and only if the acquisition
  succeeded" (C04): a ghost counter of the `mkBody` marks (the moment the user's closure is
  entered) along every execution of every scoped session, for any answers of the raw locks.
-/
import HLV.Logic.OpsIn
namespace HLV
open Prog

/-- ghost: how often the closure has been entered -/
def BodySpec : Spec Nat :=
  { pre := fun _ _ => True, adm := fun _ _ _ => True,
    upd := fun n o _ => if o = .mark mkBody then n + 1 else n }

def notBody (o : Op) : Prop := o ≠ .mark mkBody

theorem notBody_of_lock (o : Op) (h : isLockOp o) : notBody o := by
  rintro rfl
  exact h

variable {ε α : Type}

theorem bodyIgnores : BodySpec.Ignores notBody :=
  ⟨fun _ _ _ => trivial, fun _ _ _ ho => if_neg ho⟩

theorem mark_notBody {k : Nat} (h : k ≠ mkBody := by decide) : notBody (.mark k) :=
  fun h' => h (Op.mark.inj h')

theorem debugFmt_notBody (b : Option LockId) (S : Shape) : OpsIn notBody (debugFmt b S) :=
  debugFmt_opsIn (fun _ _ => nofun) (fun _ => nofun) (fun _ _ => nofun) mark_notBody b S

theorem debugFmtL_notBody (b : Option LockId) : ∀ ss : List Shape, OpsIn notBody (debugFmtL b ss) :=
  fun ss => debugFmt_notBody b (.seq ss)

theorem bodySteps_notBody (C : Ctx) (S : Shape) (body : List BodyStep) :
    OpsIn notBody (bodySteps C S body) := by
  induction body with
  | nil => exact .done _
  | cons b bs ih =>
    cases b with
    | write | read => exact .op _ _ nofun fun _ => ih
    | dbg c b =>
      exact .op _ _ mark_notBody fun _ => (debugFmt_notBody b _).bindX
        (fun _ => .op _ _ mark_notBody fun _ => .unwind _) fun _ => .op _ _ mark_notBody fun _ => ih
    | getKey =>
      exact .op _ _ nofun fun
        | .ok => .op _ _ mark_notBody fun _ => .op _ _ nofun fun _ => ih
        | .no | .panic => .op _ _ mark_notBody fun _ => ih
    | isPoisoned c =>
      simp only [bodySteps]
      split
      · exact .op _ _ nofun fun r => .op _ _ (mark_notBody ite_ne) fun _ => ih
      · exact ih
    | clearPoison c =>
      simp only [bodySteps]
      split
      · exact .op _ _ nofun fun _ => ih
      · exact ih

/-- **The closure of a scoped call is entered exactly once iff the acquisition succeeded.**
Along every execution (any answers, faults, panics) of a scoped session: either the closure was
entered exactly once (the acquisition had succeeded), or it was not entered at all and the call
reports `WouldBlock` (the try failed) or a panic (the acquisition itself unwound) — never `Ok`. -/
theorem scopedSession_body_once (C : Ctx) (S : Shape) (ses : Session) (u u' : UserSt) {n : Nat}
    {Q : Nat × UserSt → Nat → Prop} (hin : ∀ r, Q r (n + 1))
    (hout : ∀ out u, out = mkOutWouldBlock ∨ out = mkOutPanic → Q (out, u) n) :
    wp BodySpec (scopedSessionWith C S ses u u') Q (fun _ _ => True) n := by
  have hrel := ((toRaw_lockOnly C.W S).rel ses.mode).mono notBody_of_lock
  have hunwN : OpsIn notBody (scopedUnwound ses u') :=
    scopedUnwound_opsIn nofun mark_notBody mark_notBody ses u'
  -- the acquisition unwound: not entered, the call reports a panic
  have hunw : wp BodySpec (scopedUnwound ses u') Q (fun _ _ => True) n :=
    bodyIgnores.dropKeyIf nofun
      (bodyIgnores.op mark_notBody fun _ => bodyIgnores.op mark_notBody fun _ => hout _ _ (.inr rfl))
  -- the held phase: one entry, and none in anything that follows it
  have hheld : wp BodySpec (scopedHeld C S ses u') Q (fun _ _ => True) n := by
    unfold scopedHeld
    extract_lets L closure onUnwind
    refine bodyIgnores.bind (readPoison_opsIn (fun _ => nofun) _ _) (fun _ => trivial) fun poisoned =>
      ⟨trivial, fun _ _ => ?_⟩
    show wp BodySpec _ Q _ (n + 1)
    have hclosure : OpsIn notBody closure := by
      refine (bodySteps_notBody C S ses.body).bind fun _ => ?_
      split
      · exact .op _ _ mark_notBody fun _ => .unwind _
      · exact .done _
    have hcatch : OpsIn notBody onUnwind := by
      unfold onUnwind
      split
      · exact .op _ _ nofun fun _ => hrel
      · exact hrel
    exact bodyIgnores.frame
      (.bindX (.handle hclosure fun _ => hcatch) (fun _ => hunwN) fun _ =>
        hrel.bindX (fun _ => hunwN) fun _ => dropKeyIf_opsIn nofun (.op₂ mark_notBody mark_notBody))
      (fun _ => hin _) fun _ => trivial
  exact scopedSessionWith_cases (bodyIgnores.passesHead notBody_of_lock fun _ h => mark_notBody (Nat.ne_of_lt h))
    hunw hheld (hout _ _ (.inl rfl))

end HLV
