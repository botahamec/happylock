/-
  HLV.Logic.Contracts — one contract per algorithm, for every list of members, every mode,
  every admissible answer sequence (at most `n` panicking answers, `n` arbitrary).

  `IsLock n ro L fp`: the `RawLock` methods of `L` behave like a lock with footprint `fp`:
  * `acq`: returns with exactly `fp m` added to the holds, or unwinds with the holds as before;
  * `try_`: same, or returns `false` with the ghost state unchanged;
  * `rel`: needs `fp m` held; afterwards (returning *or unwinding*) `fp m` is no longer held.
  All three only ever release what is held, never block inside a non-blocking API and never
  kill a lock (these are the `pre` obligations of `HoldSpec`).
-/
import HLV.Logic.Hold
namespace HLV
open Prog

abbrev FpFun := Mode → Fp

structure IsLock (n : Nat) (ro : RankOpt) (L : RawLockM) (fp : FpFun) : Prop where
  acq : ∀ (m : Mode) (g : HG) (Q : Unit → HG → Prop) (E : Unit → HG → Prop),
    g.depth = 0 → LowFp ro g.held (fp m) →
    Q () { g with held := g.held.plus (fp m) } →
    (∀ g' : HG, g'.held = g.held → g'.depth = g.depth → g.panics < g'.panics → E () g') →
    wp (HoldSpec n ro) (L.acq m) Q E g
  try_ : ∀ (m : Mode) (g : HG) (Q : Bool → HG → Prop) (E : Unit → HG → Prop),
    Q true { g with held := g.held.plus (fp m) } →
    Q false g →
    (∀ g' : HG, g'.held = g.held → g'.depth = g.depth → g.panics < g'.panics → E () g') →
    wp (HoldSpec n ro) (L.try_ m) Q E g
  rel : ∀ (m : Mode) (g : HG) (Q : Unit → HG → Prop) (E : Unit → HG → Prop),
    g.held.Covers (fp m) →
    Q () { g with held := g.held.minus (fp m) } →
    (∀ g' : HG, g'.held = g.held.minus (fp m) → g'.depth = g.depth → g.panics < g'.panics →
      E () g') →
    wp (HoldSpec n ro) (L.rel m) Q E g

variable {n : Nat} {ro : RankOpt}

/-- Each method of a leaf is one operation: its `pre` is what the contract assumes, and the
contract's three outcomes are the admissible answers. -/
theorem isLock_rwLeaf (x : LockId) : IsLock n ro (rwLeaf x) (fun m => [(x, m)]) where
  acq m _ _ _ hb hl hQ hE := by
    refine ⟨⟨hb, hl (x, m) List.mem_cons_self⟩, fun r hr => ?_⟩
    cases r with
    | ok => exact hQ
    | no => exact absurd rfl hr.1
    | panic => exact hE _ rfl rfl (Nat.lt_succ_self _)
  try_ _ _ _ _ hQ hN hE := by
    refine ⟨trivial, fun r _ => ?_⟩
    cases r with
    | ok => exact hQ
    | no => exact hN
    | panic => exact hE _ rfl rfl (Nat.lt_succ_self _)
  rel _ _ _ _ hc hQ hE := by
    refine ⟨hc.pos, fun r hr => ?_⟩
    cases r with
    | ok => exact hQ
    | no => exact absurd rfl hr.1
    | panic => exact hE _ rfl rfl (Nat.lt_succ_self _)

theorem isLock_mutexLeaf (x : LockId) : IsLock n ro (mutexLeaf x) (fun _ => [(x, .excl)]) where
  acq _ := (isLock_rwLeaf x).acq .excl
  try_ _ := (isLock_rwLeaf x).try_ .excl
  rel _ := (isLock_rwLeaf x).rel .excl

abbrev Members := List (RawLockM × FpFun)

def Members.locks (ms : Members) : List RawLockM := ms.map (·.1)
def Members.fp (ms : Members) : FpFun := fun m => ms.flatMap (fun p => p.2 m)
def Members.Ok (n : Nat) (ro : RankOpt) (ms : Members) : Prop := ∀ p ∈ ms, IsLock n ro p.1 p.2

/-- the members' footprints are rank-increasing along the list (no obligation without a rank) -/
def Members.Chain (ro : RankOpt) (ms : Members) (m : Mode) : Prop :=
  ms.Pairwise fun p q => FpBelow ro (p.2 m) (q.2 m)

@[simp] theorem Members.fp_nil (m : Mode) : Members.fp [] m = [] := rfl
@[simp] theorem Members.fp_cons (p : RawLockM × FpFun) (ms : Members) (m : Mode) :
    Members.fp (p :: ms) m = p.2 m ++ Members.fp ms m := by
  simp [Members.fp]
theorem Members.fp_append (a b : Members) (m : Mode) :
    Members.fp (a ++ b) m = Members.fp a m ++ Members.fp b m := by
  simp [Members.fp]
theorem Members.mem_fp {ms : Members} {p : RawLockM × FpFun} (hp : p ∈ ms) (m : Mode) :
    ∀ k ∈ p.2 m, k ∈ ms.fp m :=
  fun _ hk => List.mem_flatMap.2 ⟨p, hp, hk⟩
@[simp] theorem Members.locks_nil : Members.locks [] = [] := rfl
@[simp] theorem Members.locks_cons (p : RawLockM × FpFun) (ms : Members) :
    Members.locks (p :: ms) = p.1 :: Members.locks ms := rfl
theorem Members.locks_take (ms : Members) (k : Nat) :
    Members.locks (ms.take k) = (Members.locks ms).take k := by
  simp [Members.locks, List.map_take]
theorem Members.locks_getD (ms : Members) (i : Nat) :
    ms.locks.getD i default = (ms.getD i default).1 := by
  simp only [Members.locks, List.getD_eq_getElem?_getD, List.getElem?_map]
  cases ms[i]? <;> rfl
theorem Members.Ok.take {ms : Members} (h : Members.Ok n ro ms) (k : Nat) : Members.Ok n ro (ms.take k) :=
  fun q hq => h q (List.mem_of_mem_take hq)

/-- The loops below run over `all.drop i`, with `all` fixed. This is what they know on meeting
member `p` at index `i`. -/
theorem Members.drop_cons {all suf : Members} {i : Nat} {p : RawLockM × FpFun}
    (hd : all.drop i = p :: suf) :
    all[i]? = some p ∧ all.drop (i + 1) = suf ∧ ∀ (h : Held) (m : Mode),
      h.plus (Members.fp (all.take (i + 1)) m) = (h.plus (Members.fp (all.take i) m)).plus (p.2 m) := by
  have hp : all[i]? = some p := by
    rw [← Nat.add_zero i, ← List.getElem?_drop, hd]
    rfl
  refine ⟨hp, by rw [← List.tail_drop, hd, List.tail_cons], fun h m => ?_⟩
  rw [List.take_add_one, hp, Members.fp_append, Held.plus_append]
  simp [Members.fp]

theorem Members.Chain.below {all suf : Members} {i : Nat} {p : RawLockM × FpFun} {m : Mode}
    (hch : Members.Chain ro all m) (h : all.drop i = p :: suf) :
    FpBelow ro (Members.fp (all.take i) m) (p.2 m) := by
  have hcross := (List.pairwise_append.1 ((List.take_append_drop i all).symm ▸ hch)).2.2
  cases ro with
  | none => trivial
  | some rank =>
    intro x hx y hy
    obtain ⟨q, hq, hxq⟩ := List.mem_flatMap.1 hx
    exact hcross q hq p (h ▸ List.mem_cons_self) x hxq y hy

/-- `pend`: an earlier unlock has panicked, so the function will unwind at the end. -/
theorem unlockAllFrom_spec (ms : Members) (hm : ms.Ok n ro) (m : Mode) (pend : Bool) (g : HG)
    (Q E : Unit → HG → Prop) (hc : g.held.Covers (ms.fp m))
    (hQ : pend = false → Q () { g with held := g.held.minus (ms.fp m) })
    (hE : ∀ g' : HG, g'.held = g.held.minus (ms.fp m) → g'.depth = g.depth →
      g.panics ≤ g'.panics → (pend = false → g.panics < g'.panics) → E () g') :
    wp (HoldSpec n ro) (unlockAllFrom m ms.locks pend) Q E g := by
  induction ms generalizing g pend with
  | nil =>
    rw [Members.fp_nil, Held.minus_nil] at hQ hE
    cases pend
    · exact hQ rfl
    · exact hE g rfl rfl (Nat.le_refl _) nofun
  | cons p ms ih =>
    obtain ⟨hp, hm⟩ := List.forall_mem_cons.1 hm
    simp only [Members.locks_cons, unlockAllFrom]
    rw [wp_bindX]
    rw [Members.fp_cons] at hc hQ hE
    rw [Held.minus_append] at hQ hE
    obtain ⟨hc1, hc2⟩ := hc.append
    apply hp.rel m g _ _ hc1
    · exact ih hm pend _ hc2 hQ hE
    · -- this unlock panicked: keep going, remember the panic
      intro g1 h1 h2 h3
      apply ih hm true g1 (h1 ▸ hc2) nofun
      intro g' h1' h2' h3' _
      exact hE g' (h1 ▸ h1') (h2'.trans h2) (Nat.le_trans (Nat.le_of_lt h3) h3')
        fun _ => Nat.lt_of_lt_of_le h3 h3'

theorem unlockAll_spec (ms : Members) (hm : ms.Ok n ro) (m : Mode) (g : HG)
    (Q E : Unit → HG → Prop) (hc : g.held.Covers (ms.fp m))
    (hQ : Q () { g with held := g.held.minus (ms.fp m) })
    (hE : ∀ g' : HG, g'.held = g.held.minus (ms.fp m) → g'.depth = g.depth →
      g.panics < g'.panics → E () g') :
    wp (HoldSpec n ro) (unlockAll m ms.locks) Q E g :=
  unlockAllFrom_spec ms hm m false g Q E hc (fun _ => hQ) fun g' h1 h2 _ h4 => hE g' h1 h2 (h4 rfl)

theorem unlockAll_undo (ms : Members) (hm : ms.Ok n ro) (m : Mode) (h₁ : Held) (g : HG)
    (Q E : Unit → HG → Prop) (hg : g.held = h₁.plus (ms.fp m))
    (hQ : Q () { g with held := h₁ })
    (hE : ∀ g' : HG, g'.held = h₁ → g'.depth = g.depth → g.panics < g'.panics → E () g') :
    wp (HoldSpec n ro) (unlockAll m ms.locks) Q E g := by
  have hmin : g.held.minus (ms.fp m) = h₁ := by rw [hg, Held.minus_plus]
  exact unlockAll_spec ms hm m g Q E (hg ▸ Held.covers_plus _ _) (hmin ▸ hQ)
    fun g' h1 => hE g' (h1.trans hmin)

/-- The states `g'` in which the body of a lock operation started in `g₀` may unwind, if its
handler is to bring the holds back by `recover`ing the members `ms`: these are locks, and held on
top of `g₀.held`. Depth and panics are what `IsLock` lets an unwinding reveal. -/
structure UnwindsHolding (n : Nat) (ro : RankOpt) (m : Mode) (g₀ : HG) (ms : Members) (g' : HG) :
    Prop where
  ok : ms.Ok n ro
  held : g'.held = g₀.held.plus (ms.fp m)
  depth : g'.depth = g₀.depth
  panics : g₀.panics < g'.panics

/-- the unwinding clause of `IsLock.acq/try_` for a `body` under a handler `c` -/
theorem wp_handle_recover {ε α : Type} (body : Prog ε α) (c : ε → Prog Unit Unit)
    (held : ε → Members) (m : Mode) (g : HG) (Q : α → HG → Prop) (E : Unit → HG → Prop)
    (hc : ∀ e, c e = recover m (held e).locks)
    (hbody : wp (HoldSpec n ro) body Q (fun e => UnwindsHolding n ro m g (held e)) g)
    (hE : ∀ g' : HG, g'.held = g.held → g'.depth = g.depth → g.panics < g'.panics → E () g') :
    wp (HoldSpec n ro) (handle () body c) Q E g := by
  rw [wp_handle]
  refine hbody.mono (fun _ _ h => h) ?_
  rintro e g' ⟨hok, h1, h2, h3⟩
  rw [hc]
  exact unlockAll_undo (held e) hok m g.held g' _ _ h1 (hE _ rfl h2 h3) fun g'' a b c =>
    hE g'' a (b.trans h2) (Nat.lt_trans h3 c)

/-! ### `ordered_write/read`

Loop invariant (also of `ordered_try_*`): at index `i` the holds are those at entry, `h₀`, plus the
footprint of `all.take i`; an unwinding with cell `c` happens holding `all.take c`. -/

theorem orderedAcqBody_spec (all : Members) (hm : all.Ok n ro) (m : Mode) (h₀ : Held)
    (Q : Unit → HG → Prop) (i : Nat) (g : HG)
    (hb : g.depth = 0) (hch : Members.Chain ro all m) (hlow : LowFp ro h₀ (all.fp m))
    (hg : g.held = h₀.plus (Members.fp (all.take i) m))
    (hQ : Q () { g with held := h₀.plus (all.fp m) }) :
    wp (HoldSpec n ro) (orderedAcqBody m (Members.locks (all.drop i)) i) Q
      (fun c => UnwindsHolding n ro m { g with held := h₀ } (all.take c)) g := by
  generalize hsuf : all.drop i = suf
  induction suf generalizing i g with
  | nil =>
    rw [List.take_of_length_le (List.drop_eq_nil_iff.1 hsuf)] at hg
    rw [← hg] at hQ
    exact hQ
  | cons p suf ih =>
    obtain ⟨hp, hdrop, htake⟩ := Members.drop_cons hsuf
    have hp := List.mem_of_getElem? hp
    simp only [Members.locks_cons, orderedAcqBody]
    rw [wp_call]
    apply (hm p hp).acq m g _ _ hb (hg ▸ (hlow.mono (Members.mem_fp hp m)).plus (hch.below hsuf))
    · exact ih (i + 1) { g with held := g.held.plus (p.2 m) } hb (by rw [htake, ← hg]) hQ hdrop
    · exact fun g' h1 h2 h3 => ⟨hm.take i, h1.trans hg, h2, h3⟩

/-! ### `ordered_try_write/read` (and the retrying collection's `raw_try_*`, same shape) -/

theorem orderedTryBody_spec (all : Members) (hm : all.Ok n ro) (m : Mode) (h₀ : Held)
    (Q : Bool → HG → Prop) (i : Nat) (g : HG)
    (hg : g.held = h₀.plus (Members.fp (all.take i) m))
    (hQt : Q true { g with held := h₀.plus (all.fp m) })
    (hQf : Q false { g with held := h₀ }) :
    wp (HoldSpec n ro) (orderedTryBody m all.locks (Members.locks (all.drop i)) i i) Q
      (fun c => UnwindsHolding n ro m { g with held := h₀ } (all.take c)) g := by
  generalize hsuf : all.drop i = suf
  induction suf generalizing i g with
  | nil =>
    rw [List.take_of_length_le (List.drop_eq_nil_iff.1 hsuf)] at hg
    rw [← hg] at hQt
    exact hQt
  | cons p suf ih =>
    obtain ⟨hp, hdrop, htake⟩ := Members.drop_cons hsuf
    simp only [Members.locks_cons, orderedTryBody]
    rw [wp_call]
    apply (hm p (List.mem_of_getElem? hp)).try_ m g
    · exact ih (i + 1) { g with held := g.held.plus (p.2 m) } (by rw [htake, ← hg]) hQt hQf hdrop
    · -- refused: roll back `&locks[0..i]`; the cell is reset to 0 first, so an unwinding out of the
      -- rollback finds the handler believing that nothing is held (`all.take 0`)
      simp only [Bool.false_eq_true, if_false]
      rw [wp_call, ← Members.locks_take]
      exact unlockAll_undo _ (hm.take i) m h₀ g _ _ hg hQf fun g' h1 h2 h3 => ⟨hm.take 0, h1, h2, h3⟩
    · exact fun g' h1 h2 h3 => ⟨hm.take i, h1.trans hg, h2, h3⟩

theorem isLock_ordered_try (ms : Members) (hm : ms.Ok n ro) (m : Mode) (g : HG)
    (Q : Bool → HG → Prop) (E : Unit → HG → Prop)
    (hQt : Q true { g with held := g.held.plus (ms.fp m) })
    (hQf : Q false g)
    (hE : ∀ g' : HG, g'.held = g.held → g'.depth = g.depth → g.panics < g'.panics → E () g') :
    wp (HoldSpec n ro) (orderedTry m ms.locks) Q E g :=
  wp_handle_recover _ _ (fun c => ms.take c) m g Q E (fun c => by rw [Members.locks_take])
    (orderedTryBody_spec ms hm m g.held Q 0 g rfl hQt hQf) hE

theorem isLock_ordered (ms : Members) (hm : ms.Ok n ro) (hch : ∀ m, Members.Chain ro ms m) :
    IsLock n ro (orderedLock ms.locks) ms.fp where
  acq m g Q E hb hlow hQ hE :=
    wp_handle_recover _ _ (fun c => ms.take c) m g Q E (fun c => by rw [Members.locks_take])
      (orderedAcqBody_spec ms hm m g.held Q 0 g hb (hch m) hlow rfl hQ) hE
  try_ := isLock_ordered_try ms hm
  rel := unlockAll_spec ms hm

theorem retryTryBody_eq (m : Mode) (all ls : List RawLockM) (i locked : Nat) :
    retryTryBody m all ls i locked = orderedTryBody m all ls i locked := by
  induction ls generalizing i locked with
  | nil => rfl
  | cons l ls ih => simp only [retryTryBody, orderedTryBody, recover, ih]

/-- `raw_try_*` of the retrying collection is `ordered_try_*` (its test for the empty list changes nothing) -/
theorem retryLock_try (fuel : Nat) (m : Mode) (ls : List RawLockM) :
    (retryLock fuel ls).try_ m = (orderedLock ls).try_ m := by
  cases ls with
  | nil => rfl
  | cons l ls =>
    show retryTry m (l :: ls) = orderedTry m (l :: ls)
    rw [retryTry, if_neg (by simp), retryTryBody_eq, orderedTry]

/-- what the unwind handler of the retrying `raw_write/raw_read` believes is held -/
def retryHeld (ms : Members) (c : RetryCells) : Members :=
  ms.take c.locked ++
    if c.firstLocked = true ∧ c.locked ≤ c.firstIndex then [ms.getD c.firstIndex default] else []

theorem retryCatch_eq (m : Mode) (ms : Members) (c : RetryCells) :
    retryCatch m ms.locks c = recover m (Members.locks (retryHeld ms c)) := by
  unfold retryCatch retryHeld
  rw [Members.locks_getD, ← Members.locks_take]
  by_cases h : c.firstLocked = true ∧ c.locked ≤ c.firstIndex <;> simp [h, Members.locks]

theorem Members.getD_mem (ms : Members) (i : Nat) (h : i < ms.length) : ms.getD i default ∈ ms := by
  simp only [List.getD_eq_getElem?_getD, List.getElem?_eq_getElem h, Option.getD_some]
  exact List.getElem_mem h

theorem retryHeld_ok {ms : Members} (hm : ms.Ok n ro) (c : RetryCells)
    (hfi : c.firstIndex < ms.length) : Members.Ok n ro (retryHeld ms c) := by
  intro q hq
  rcases List.mem_append.1 hq with hq | hq
  · exact hm q (List.mem_of_mem_take hq)
  · split at hq
    · exact List.mem_singleton.1 hq ▸ hm _ (ms.getD_mem _ hfi)
    · cases hq

/-- the handler's belief, sorted as the inner loop sees the holds -/
theorem plus_retryHeld (h : Held) (ms : Members) (c : RetryCells) (m : Mode) :
    h.plus (Members.fp (retryHeld ms c) m) =
      (h.plus (if c.firstLocked = true ∧ c.locked ≤ c.firstIndex
        then (ms.getD c.firstIndex default).2 m else [])).plus (Members.fp (ms.take c.locked) m) := by
  rw [retryHeld, Members.fp_append, Held.plus_append_comm, Held.plus_append]
  split <;> simp

/-- Invariant of the inner loop at index `i`, with cells `first_index = f`, `first_locked` set and
`locked = l`: the handler's belief is exact (`hbel`); and held are `h₀`, the member locked by the
blocking call while `i` has not passed it, and the members before `i` (`hidx`). The two differ in
that `l` is one behind `i` right after the member locked by the blocking call has been skipped,
which makes no difference to the handler; the proof never asks where `l` stands. -/
theorem retryInner_spec (all : Members) (hm : all.Ok n ro) (m : Mode) (h₀ : Held)
    (Q : Option Nat → HG → Prop) (i f l : Nat) (g : HG) (hf : f < all.length)
    (hbel : g.held = h₀.plus (Members.fp (retryHeld all ⟨f, true, l⟩) m))
    (hidx : g.held = (h₀.plus (if i ≤ f then (all.getD f default).2 m else [])).plus
      (Members.fp (all.take i) m))
    (hQn : Q none { g with held := h₀.plus (all.fp m) })
    (hQs : ∀ j, j < all.length → Q (some j) { g with held := h₀ }) :
    wp (HoldSpec n ro) (retryInner m all.locks (Members.locks (all.drop i)) i ⟨f, true, l⟩) Q
      (fun c' => UnwindsHolding n ro m { g with held := h₀ } (retryHeld all c')) g := by
  generalize hsuf : all.drop i = suf
  induction suf generalizing i l g with
  | nil =>
    have hlen : all.length ≤ i := List.drop_eq_nil_iff.1 hsuf
    rw [if_neg (Nat.not_le_of_gt (Nat.lt_of_lt_of_le hf hlen)), Held.plus_nil,
      List.take_of_length_le hlen] at hidx
    rw [← hidx] at hQn
    exact hQn
  | cons p suf ih =>
    obtain ⟨hp, hdrop, htake⟩ := Members.drop_cons hsuf
    simp only [Members.locks_cons, retryInner]
    by_cases hi : i = f
    · -- the member locked by the blocking call: it joins the prefix
      rw [if_pos hi]
      refine ih (i + 1) l g hbel ?_ hQn hQs hdrop
      rw [hidx, htake, ← hi, if_pos (Nat.le_refl i), if_neg (Nat.not_succ_le_self i), Held.plus_nil,
        Held.plus_comm, List.getD_eq_getElem?_getD, hp]
      rfl
    · rw [if_neg hi, wp_call]
      apply (hm p (List.mem_of_getElem? hp)).try_ m g
      · -- acquired
        have hbel' : g.held.plus (p.2 m) =
            h₀.plus (Members.fp (retryHeld all ⟨f, true, i + 1⟩) m) := by
          rw [hidx, plus_retryHeld, htake]
          simp only [true_and, show i + 1 ≤ f ↔ i ≤ f from
            ⟨Nat.le_of_succ_le, fun h => Nat.lt_of_le_of_ne h hi⟩]
        refine ih (i + 1) (i + 1) { g with held := g.held.plus (p.2 m) } hbel' ?_ hQn hQs hdrop
        rw [hbel', plus_retryHeld]
        simp only [true_and]
      · -- refused: roll the round back
        have hlt : i < all.length := (List.getElem?_eq_some_iff.1 hp).1
        simp only [Bool.false_eq_true, if_false]
        rw [wp_call, recover, ← Members.locks_take]
        apply unlockAll_undo _ (hm.take i) m _ g _ _ hidx
        · by_cases hge : i ≤ f
          · -- the member locked by the blocking call is still held: unlock it too
            rw [if_pos hge, if_pos (decide_eq_true hge), wp_call, Members.locks_getD]
            apply (hm _ (all.getD_mem _ hf)).rel m _ _ _ (Held.covers_plus _ _)
            · show Q (some i) { g with held := (h₀.plus _).minus _ }
              rw [Held.minus_plus]
              exact hQs i hlt
            · exact fun g' h1 h2 h3 => ⟨retryHeld_ok hm _ hf, h1.trans (Held.minus_plus _ _), h2, h3⟩
          · rw [if_neg hge, if_neg (mt of_decide_eq_true hge), Held.plus_nil]
            exact hQs i hlt
        · intro g' h1 h2 h3
          refine ⟨retryHeld_ok hm _ hf, ?_, h2, h3⟩
          rw [h1, plus_retryHeld]
          simp [Held.plus_nil]
      · exact fun g' h1 h2 h3 => ⟨retryHeld_ok hm _ hf, h1.trans hbel, h2, h3⟩

/-- a round starts with nothing of the collection held, `first_locked` unset and `locked = 0` -/
theorem retryOuter_spec (all : Members) (hm : all.Ok n ro) (m : Mode) (fuel fi : Nat) (g : HG)
    (Q : Unit → HG → Prop)
    (hb : g.depth = 0) (hlow : LowFp ro g.held (all.fp m)) (hfi : fi < all.length)
    (hQ : Q () { g with held := g.held.plus (all.fp m) }) :
    wp (HoldSpec n ro) (retryOuter m all.locks fuel ⟨fi, false, 0⟩) Q
      (fun c' => UnwindsHolding n ro m g (retryHeld all c')) g := by
  induction fuel generalizing fi with
  | zero => trivial
  | succ fuel ih =>
    have hq := all.getD_mem fi hfi
    simp only [retryOuter]
    rw [wp_call, Members.locks_getD]
    apply (hm _ hq).acq m g _ _ hb (hlow.mono (Members.mem_fp hq m))
    · -- the blocking acquisition returned: try all the others
      have hbel : g.held.plus ((all.getD fi default).2 m) =
          g.held.plus (Members.fp (retryHeld all ⟨fi, true, 0⟩) m) := by
        simp [retryHeld]
      rw [wp_bind]
      exact retryInner_spec all hm m g.held _ 0 fi 0
        { g with held := g.held.plus ((all.getD fi default).2 m) } hfi hbel
        (by rw [if_pos (Nat.zero_le fi)]; rfl) hQ ih
    · exact fun g' h1 h2 h3 => ⟨retryHeld_ok hm _ hfi, h1, h2, h3⟩

theorem isLock_retry (fuel : Nat) (ms : Members) (hm : ms.Ok n ro) :
    IsLock n ro (retryLock fuel ms.locks) ms.fp where
  acq m g Q E hb hlow hQ hE := by
    cases ms with
    | nil => exact hQ
    | cons p ms =>
      -- `locks.is_empty()` is false, the program reduces to the `handle_unwind`
      exact wp_handle_recover _ _ (retryHeld (p :: ms)) m g Q E (retryCatch_eq m _)
        (retryOuter_spec _ hm m fuel 0 g Q hb hlow (Nat.succ_pos _) hQ) hE
  try_ m := retryLock_try fuel m ms.locks ▸ isLock_ordered_try ms hm m
  rel := unlockAll_spec ms hm

end HLV
