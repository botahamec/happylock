/-
  HLV.Logic.Wp — a weakest-precondition calculus over `Prog`, generic in a *specification*:
  what the program must guarantee before each operation (`pre`), which answers the
  environment may give (`adm`), and how a ghost state evolves (`upd`).

  `wp S p Q E g` says: started with ghost `g`, whatever admissible answers the environment
  gives, `p` only issues operations whose `pre` holds, and if it returns `a` (unwinds with
  `e`) in ghost `g'` then `Q a g'` (`E e g'`). `spin` (still running) and `abort` (process
  gone) impose nothing further.
-/
import HLV.Model.Prog
namespace HLV

structure Spec (G : Type) where
  pre : G → Op → Prop
  adm : G → Op → Resp → Prop
  upd : G → Op → Resp → G

variable {G : Type} {ε ε₁ ε₂ α β : Type}

def wp (S : Spec G) : Prog ε α → (α → G → Prop) → (ε → G → Prop) → G → Prop
  | .done a, Q, _, g => Q a g
  | .unwind e, _, E, g => E e g
  | .spin, _, _, _ => True
  | .abort, _, _, _ => True
  | .op o k, Q, E, g => S.pre g o ∧ ∀ r, S.adm g o r → wp S (k r) Q E (S.upd g o r)

@[simp] theorem wp_done (S : Spec G) (a : α) (Q : α → G → Prop) (E : ε → G → Prop) (g : G) :
    wp S (.done a : Prog ε α) Q E g = Q a g := rfl
@[simp] theorem wp_unwind (S : Spec G) (e : ε) (Q : α → G → Prop) (E : ε → G → Prop) (g : G) :
    wp S (.unwind e : Prog ε α) Q E g = E e g := rfl
@[simp] theorem wp_spin (S : Spec G) (Q : α → G → Prop) (E : ε → G → Prop) (g : G) :
    wp S (.spin : Prog ε α) Q E g = True := rfl
@[simp] theorem wp_abort (S : Spec G) (Q : α → G → Prop) (E : ε → G → Prop) (g : G) :
    wp S (.abort : Prog ε α) Q E g = True := rfl
@[simp] theorem wp_op (S : Spec G) (o : Op) (k : Resp → Prog ε α) (Q : α → G → Prop)
    (E : ε → G → Prop) (g : G) :
    wp S (.op o k) Q E g = (S.pre g o ∧ ∀ r, S.adm g o r → wp S (k r) Q E (S.upd g o r)) := rfl

theorem wp_mono (S : Spec G) (p : Prog ε α) {Q Q' : α → G → Prop} {E E' : ε → G → Prop} {g : G}
    (h : wp S p Q E g) (hQ : ∀ a g, Q a g → Q' a g) (hE : ∀ e g, E e g → E' e g) :
    wp S p Q' E' g := by
  induction p generalizing g with
  | done a => exact hQ _ _ h
  | unwind e => exact hE _ _ h
  | spin | abort => trivial
  | op o k ih => exact ⟨h.1, fun r hr => ih r (h.2 r hr)⟩

theorem wp_bindX (S : Spec G) (p : Prog ε₁ β) (h : ε₁ → Prog ε₂ α) (k : β → Prog ε₂ α)
    (Q : α → G → Prop) (E : ε₂ → G → Prop) (g : G) :
    wp S (p.bindX h k) Q E g ↔
      wp S p (fun b g' => wp S (k b) Q E g') (fun e g' => wp S (h e) Q E g') g := by
  induction p generalizing g with
  | op o c ih => simp only [Prog.bindX, wp_op, ih]
  | _ => exact .rfl

-- `bind`, `call` and `duringUnwind` are `bindX` with particular handlers: their rules are its instances
theorem wp_bind (S : Spec G) (p : Prog ε β) (k : β → Prog ε α)
    (Q : α → G → Prop) (E : ε → G → Prop) (g : G) :
    wp S (p.bind k) Q E g ↔ wp S p (fun b g' => wp S (k b) Q E g') E g :=
  wp_bindX ..

theorem wp_call (S : Spec G) (cells : ε) (callee : Prog ε₁ β) (k : β → Prog ε α)
    (Q : α → G → Prop) (E : ε → G → Prop) (g : G) :
    wp S (Prog.call cells callee k) Q E g ↔
      wp S callee (fun b g' => wp S (k b) Q E g') (fun _ g' => E cells g') g :=
  wp_bindX ..

theorem wp_handle (S : Spec G) (outer : ε₂) (body : Prog ε₁ α) (c : ε₁ → Prog Unit Unit)
    (Q : α → G → Prop) (E : ε₂ → G → Prop) (g : G) :
    wp S (Prog.handle outer body c) Q E g ↔
      wp S body Q (fun e g' => wp S (c e) (fun _ g'' => E outer g'') (fun _ g'' => E outer g'') g') g := by
  unfold Prog.handle
  -- the handler is a `bindX` as well: rewritten under the binder
  simp only [wp_bindX]
  rfl

theorem wp_duringUnwind (S : Spec G) (e : ε) (cleanup : Prog Unit Unit)
    (Q : α → G → Prop) (E : ε → G → Prop) (g : G) :
    wp S (Prog.duringUnwind (α := α) e cleanup) Q E g ↔
      wp S cleanup (fun _ g' => E e g') (fun _ _ => True) g :=
  wp_bindX ..

theorem wp_and (S : Spec G) (p : Prog ε α) {Q Q' : α → G → Prop} {E E' : ε → G → Prop}
    {g : G} (h : wp S p Q E g) (h' : wp S p Q' E' g) :
    wp S p (fun a g => Q a g ∧ Q' a g) (fun e g => E e g ∧ E' e g) g := by
  induction p generalizing g with
  | done | unwind => exact ⟨h, h'⟩
  | spin | abort => trivial
  | op o k ih => exact ⟨h.1, fun r hr => ih r (h.2 r hr) (h'.2 r hr)⟩

inductive Outcome (ε α : Type)
  | ret (a : α) | unwound (e : ε) | spinning | aborted | running

/-- `Path p tr out`: the program can perform the operation/answer sequence `tr` and then be in
state `out` (`running` = stopped observing in the middle). -/
inductive Path : Prog ε α → List (Op × Resp) → Outcome ε α → Prop
  | done (a : α) : Path (.done a) [] (.ret a)
  | unwind (e : ε) : Path (.unwind e) [] (.unwound e)
  | spin : Path .spin [] .spinning
  | abort : Path .abort [] .aborted
  | stop (p : Prog ε α) : Path p [] .running
  | step (o : Op) (k : Resp → Prog ε α) (r : Resp) {tr out} :
      Path (k r) tr out → Path (.op o k) ((o, r) :: tr) out

/-- A trace is acceptable from ghost `g`: as long as the answers were admissible, every
operation satisfied its precondition. -/
def TraceOK (S : Spec G) : G → List (Op × Resp) → Prop
  | _, [] => True
  | g, (o, r) :: tr => S.pre g o ∧ (S.adm g o r → TraceOK S (S.upd g o r) tr)

def ghostAfter (S : Spec G) : G → List (Op × Resp) → G
  | g, [] => g
  | g, (o, r) :: tr => ghostAfter S (S.upd g o r) tr

def Admissible (S : Spec G) : G → List (Op × Resp) → Prop
  | _, [] => True
  | g, (o, r) :: tr => S.adm g o r ∧ Admissible S (S.upd g o r) tr

def Outcome.post (Q : α → G → Prop) (E : ε → G → Prop) : Outcome ε α → G → Prop
  | .ret a, g => Q a g
  | .unwound e, g => E e g
  | _, _ => True

theorem wp_sound (S : Spec G) {p : Prog ε α} {Q : α → G → Prop} {E : ε → G → Prop} {g : G}
    {tr : List (Op × Resp)} {out : Outcome ε α}
    (h : wp S p Q E g) (hp : Path p tr out) :
    TraceOK S g tr ∧
    (Admissible S g tr → out.post Q E (ghostAfter S g tr)) := by
  induction hp generalizing g with
  | done | unwind => exact ⟨trivial, fun _ => h⟩
  | spin | abort | stop => exact ⟨trivial, fun _ => trivial⟩
  | step o k r _ ih =>
    obtain ⟨h1, h2⟩ := h
    refine ⟨⟨h1, fun hr => (ih (h2 r hr)).1⟩, fun ha => ?_⟩
    exact (ih (h2 r ha.1)).2 ha.2

theorem TraceOK.at (S : Spec G) {g : G} {tr₁ : List (Op × Resp)} {o : Op} {r : Resp}
    {tr₂ : List (Op × Resp)} (h : TraceOK S g (tr₁ ++ (o, r) :: tr₂)) (ha : Admissible S g tr₁) :
    S.pre (ghostAfter S g tr₁) o := by
  induction tr₁ generalizing g with
  | nil => exact h.1
  | cons a tr₁ ih =>
    obtain ⟨o', r'⟩ := a
    exact ih (h.2 ha.1) ha.2

theorem ghostAfter_inv (S : Spec G) {I : G → Prop} {tr : List (Op × Resp)}
    (h : ∀ x ∈ tr, ∀ g, I g → I (S.upd g x.1 x.2)) {g : G} (hg : I g) : I (ghostAfter S g tr) := by
  induction tr generalizing g with
  | nil => exact hg
  | cons a tr ih =>
    exact ih (fun x hx => h x (List.mem_cons_of_mem _ hx)) (h a List.mem_cons_self g hg)

/-! ### composing what is known of the parts

The rules above rewrite the goal; these go the other way, from a fact about `p` (a component's
specification, with the postconditions it was stated with) to a fact about the program around it. -/

section compose
variable {S : Spec G} {g : G} {R : β → G → Prop} {Q : α → G → Prop}

theorem wp.mono {p : Prog ε β} {U E : ε → G → Prop} {Q : β → G → Prop}
    (hp : wp S p R U g) (hQ : ∀ b g, R b g → Q b g) (hE : ∀ e g, U e g → E e g) : wp S p Q E g :=
  wp_mono S p hp hQ hE

theorem wp.bindX {p : Prog ε₁ β} {h : ε₁ → Prog ε₂ α} {k : β → Prog ε₂ α} {U : ε₁ → G → Prop}
    {E : ε₂ → G → Prop} (hp : wp S p R U g) (hh : ∀ e g, U e g → wp S (h e) Q E g)
    (hk : ∀ b g, R b g → wp S (k b) Q E g) : wp S (p.bindX h k) Q E g :=
  (wp_bindX ..).2 (hp.mono hk hh)

theorem wp.bind {p : Prog ε β} {k : β → Prog ε α} {E : ε → G → Prop}
    (hp : wp S p R E g) (hk : ∀ b g, R b g → wp S (k b) Q E g) : wp S (p.bind k) Q E g :=
  hp.bindX (fun _ _ he => he) hk

end compose

end HLV
