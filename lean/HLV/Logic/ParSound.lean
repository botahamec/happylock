/-
  HLV.Logic.ParSound — the executable replay used for the T2 correspondence (`Model/Par.lean`)
  really is an execution of the interleaving semantics `Sys.step` that `C01_deadlock_free` and
  the system invariant are about: every turn of a thread is a finite sequence of `Sys.step`s
  of that thread, so every state the replay goes through is `Reachable`.
-/
import HLV.Model.Par
namespace HLV

/-- the system a replay state stands for: thread `t` still has to run `thr[t]` -/
def ParSt.toSys (s : ParSt) : Sys :=
  { env := s.env
    thr := fun t => match s.thr[t]? with
      | some p => Prog.bind p fun _ => .done ()
      | none => .done () }

/-- the trace and the `started` flags are no part of it: the lemmas below speak of table and code only -/
def sysOf (e : Env) (thr : List (Prog Unit UserSt)) : Sys := ({ env := e, thr := thr, started := [] } : ParSt).toSys

theorem reachable_trans {pol : Policy} {a b c : Sys} (h1 : Reachable pol a b) (h2 : Reachable pol b c) :
    Reachable pol a c := by
  induction h2 with
  | init => exact h1
  | step t _ hs ih => exact .step t ih hs

variable {thr : List (Prog Unit UserSt)} {t : Tid}

theorem sysOf_set (ht : t < thr.length) (e : Env) (p : Prog Unit UserSt) :
    sysOf e (thr.set t p) =
      { env := e, thr := fun u => if u = t then (Prog.bind p fun _ => .done ()) else (sysOf e thr).thr u } := by
  simp only [sysOf, ParSt.toSys]
  congr 1
  funext u
  by_cases hu : u = t
  · rw [if_pos hu, hu, List.getElem?_set_self ht]
  · rw [if_neg hu, List.getElem?_set_ne (Ne.symm hu)]

theorem step_sysOf (ht : t < thr.length) {e e' : Env} {o : Op} (k : Resp → Prog Unit UserSt) {r : Resp} {ev : Ev}
    (hst : e.step .readerPref t o false = .stepped r e' ev) :
    (sysOf e (thr.set t (.op o k))).step .readerPref t = some (sysOf e' (thr.set t (k r))) := by
  rw [sysOf_set ht, sysOf_set ht]
  simp only [Sys.step, if_true, Prog.bind, Prog.bindX, hst]
  congr 2
  funext u
  split
  · rfl
  · rfl

theorem runLocal_reachable (ht : t < thr.length) : ∀ (f : Nat) (e : Env) (tr : List String) (p : Prog Unit UserSt),
    Reachable .readerPref (sysOf e (thr.set t p))
      (sysOf (runLocal t f e tr p).1 (thr.set t (runLocal t f e tr p).2.2))
  | f + 1, e, tr, .op o k => by
    simp only [runLocal]
    split
    · exact .init
    · split
      · rename_i r e' ev hst
        exact reachable_trans (.step t .init (step_sysOf ht k hst)) (runLocal_reachable ht f e' (logT t ev tr) (k r))
      · exact .init
  -- out of fuel, or the thread has no operation left: `runLocal` returns its arguments
  | 0, _, _, _
  | _ + 1, _, _, .done _ | _ + 1, _, _, .unwind _ | _ + 1, _, _, .spin | _ + 1, _, _, .abort => .init

/-- **Every turn of the T2 replay is a run of the interleaving semantics**: the thread's pending
scheduled operation, if it has started, then its local operations. A thread that does not exist is
refused. (`started` stays as long as `thr`: the invariant of `runSched_reachable`.) -/
theorem turn_reachable {s s' : ParSt} {t : Tid} (hl : s.started.length = s.thr.length)
    (h : s.turn t = .ok s') :
    s'.started.length = s'.thr.length ∧ Reachable .readerPref s.toSys s'.toSys := by
  have ht : t < s.thr.length := by
    refine (Nat.lt_or_ge t s.thr.length).resolve_right fun hge => ?_
    have h1 : s.started[t]? = none := List.getElem?_eq_none (by omega)
    have h2 : s.thr[t]? = none := List.getElem?_eq_none hge
    simp [ParSt.turn, List.getD_eq_getElem?_getD, h1, h2] at h
  -- the lemmas speak of `s.thr.set t p`: put `s.thr` in that form
  have hself : s.toSys = sysOf s.env (s.thr.set t (s.thr.getD t (.done {}))) := by
    rw [List.getD_eq_getElem?_getD, List.getElem?_eq_getElem ht, Option.getD_some, List.set_getElem_self]
    rfl
  rw [hself]
  unfold ParSt.turn at h
  split at h
  · -- the thread's first turn: local operations only
    cases h
    exact ⟨by simp [hl], runLocal_reachable ht localFuel _ _ _⟩
  · dsimp only at h
    -- later turns: the pending operation has to be a scheduled one that the table answers; every
    -- other way through `turn` is an error
    split at h
    · rename_i o k hp
      split at h
      · split at h
        · rename_i r e' ev hst
          cases h
          rw [hp]
          exact ⟨by simp [hl], reachable_trans (.step t .init (step_sysOf ht k hst))
            (runLocal_reachable ht localFuel e' _ (k r))⟩
        · cases h
      · cases h
    · cases h

/-- **The whole replay of a schedule is a run of the interleaving semantics.** -/
theorem runSched_reachable : ∀ (sched : List Nat) (s s' : ParSt), s.started.length = s.thr.length →
    s.runSched sched = .ok s' → Reachable .readerPref s.toSys s'.toSys
  | [], s, s', _, h => by
    simp only [ParSt.runSched, Except.ok.injEq] at h; subst h; exact .init
  | t :: ts, s, s', hl, h => by
    simp only [ParSt.runSched] at h
    split at h
    · rename_i s1 ht
      obtain ⟨hl1, hr⟩ := turn_reachable hl ht
      exact reachable_trans hr (runSched_reachable ts s1 s' hl1 h)
    · cases h

end HLV
