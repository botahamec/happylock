/-
  HLV.Logic.Poison — poisoning (C10): a specification whose ghost is the poison flags (read
  deterministically) and the number of panics seen so far (panicking answers of any operation,
  and user panics, which the model marks with `mkUserPanic`).

  Almost all of a session touches no flag, and such code only moves the ghost up along `PG.Le`
  (`poison_frame`). What is left are the two places that set flags, the drop of a guard and the
  unwind handler of `Poisonable::scoped_*`: both are reached only from a state in which a panic
  has been counted, because the body of a hold unwinds only after one.
-/
import HLV.Logic.OpsIn
namespace HLV
open Prog

variable {ε α : Type}

structure PG where
  flag : PoisonId → Bool := fun _ => false
  panics : Nat := 0

def PG.set (g : PG) (p : PoisonId) (b : Bool) : PG :=
  { g with flag := fun q => if q = p then b else g.flag q }

/-- soundness obligation: a poison flag is only ever set after some panic -/
def poisonPre (g : PG) : Op → Prop
  | .poisonSet _ => 0 < g.panics
  | _ => True

/-- `is_poisoned()` reads the flag; lock operations may answer anything (other threads,
refusals, faults); only lock operations can panic -/
def poisonAdm (g : PG) : Op → Resp → Prop
  | .poisonGet p, r => r = (if g.flag p then .ok else .no)
  | .acq _ _ _, _ => True
  | .rel _ _, _ => True
  | .keyGet, r => r ≠ .panic
  | _, r => r = .ok

def poisonUpd (g : PG) : Op → Resp → PG
  | .poisonSet p, _ => g.set p true
  | .poisonClear p, _ => g.set p false
  | .poisonGet _, _ => g
  | .mark k, _ => if k = mkUserPanic then { g with panics := g.panics + 1 } else g
  | _, .panic => { g with panics := g.panics + 1 }
  | _, _ => g

def PoisonSpec : Spec PG := { pre := poisonPre, adm := poisonAdm, upd := poisonUpd }

/-- `g'` is `g` after more panics and possibly more poisoning, but no clearing -/
def PG.Le (g g' : PG) : Prop := g.panics ≤ g'.panics ∧ ∀ p, g.flag p = true → g'.flag p = true

theorem PG.Le.refl (g : PG) : g.Le g := ⟨Nat.le_refl _, fun _ h => h⟩
theorem PG.Le.trans {a b c : PG} (h1 : a.Le b) (h2 : b.Le c) : a.Le c :=
  ⟨Nat.le_trans h1.1 h2.1, fun p h => h2.2 p (h1.2 p h)⟩
theorem PG.Le.pos {a b : PG} (h : a.Le b) (ha : 0 < a.panics) : 0 < b.panics := Nat.lt_of_lt_of_le ha h.1

theorem PG.flag_set (g : PG) (p : PoisonId) (b : Bool) : (g.set p b).flag p = b := if_pos rfl
theorem PG.le_set (g : PG) (p : PoisonId) : g.Le (g.set p true) := by
  refine ⟨Nat.le_refl _, fun q hq => ?_⟩
  show (if q = p then true else g.flag q) = true
  split
  · rfl
  · exact hq

/-- operations that cannot set or clear a flag (they may count as a panic) -/
def nonPoisonOp : Op → Prop
  | .poisonSet _ => False
  | .poisonClear _ => False
  | _ => True

theorem nonPoison_of_lock {o : Op} (h : isLockOp o) : nonPoisonOp o := by
  cases o with
  | poisonSet _ | poisonClear _ => exact False.elim h
  | _ => trivial

theorem OpsIn.nonPoison {p : Prog ε α} (h : OpsIn isLockOp p) : OpsIn nonPoisonOp p :=
  h.mono fun _ => nonPoison_of_lock

theorem poisonPre_of_nonPoison (g : PG) {o : Op} (ho : nonPoisonOp o) : poisonPre g o := by
  cases o with
  | poisonSet _ => exact False.elim ho
  | _ => trivial

theorem poisonUpd_le (g : PG) (o : Op) (r : Resp) (ho : nonPoisonOp o) : g.Le (poisonUpd g o r) := by
  have up : g.Le { g with panics := g.panics + 1 } := ⟨Nat.le_succ _, fun _ h => h⟩
  -- clause by clause of `poisonUpd`
  unfold poisonUpd
  split
  · exact False.elim ho
  · exact False.elim ho
  · exact .refl g
  · split
    · exact up
    · exact .refl g
  · exact up
  · exact .refl g

theorem poisonUpd_panics (g : PG) (o : Op) (r : Resp) (hr : r ≠ .panic)
    (ho : o ≠ .mark mkUserPanic) : (poisonUpd g o r).panics = g.panics := by
  -- clause by clause of `poisonUpd`: only the fourth and the fifth count
  unfold poisonUpd
  split
  · rfl
  · rfl
  · rfl
  · next k =>
    have hk : k ≠ mkUserPanic := fun h => ho (h ▸ rfl)
    rw [if_neg hk]
  · exact absurd rfl hr
  · rfl

/-- **Frame rule**, in continuation form: a program that touches no flag ends above the ghost it
started in. -/
theorem poison_frame {p : Prog ε α} {Q : α → PG → Prop} {E : ε → PG → Prop} {g : PG}
    (hp : OpsIn nonPoisonOp p) (hQ : ∀ a g', g.Le g' → Q a g') (hE : ∀ e g', g.Le g' → E e g') :
    wp PoisonSpec p Q E g := by
  induction hp generalizing g with
  | done a => exact hQ a g (.refl g)
  | unwind e => exact hE e g (.refl g)
  | spin | abort => trivial
  | op o c ho _ ih =>
    refine ⟨poisonPre_of_nonPoison g ho, fun r _ => ?_⟩
    have hle := poisonUpd_le g o r ho
    exact ih r (fun a g' h => hQ a g' (hle.trans h)) fun e g' h => hE e g' (hle.trans h)

theorem pwp_lock {o : Op} {c : Resp → Prog ε α} {Q : α → PG → Prop} {E : ε → PG → Prop} {g : PG}
    (ho : isLockOp o)
    (h : ∀ r g', g.Le g' → (r = .panic → 0 < g'.panics) → wp PoisonSpec (c r) Q E g') :
    wp PoisonSpec (.op o c) Q E g := by
  have hn := nonPoison_of_lock ho
  refine ⟨poisonPre_of_nonPoison g hn, fun r _ => h r _ (poisonUpd_le g o r hn) ?_⟩
  rintro rfl
  cases o with
  | acq | rel | kill => exact Nat.succ_pos _
  | _ => exact False.elim ho

theorem pwp_userPanic {c : Resp → Prog ε α} {Q : α → PG → Prop} {E : ε → PG → Prop} {g : PG}
    (h : ∀ g', 0 < g'.panics → wp PoisonSpec (c .ok) Q E g') :
    wp PoisonSpec (.op (.mark mkUserPanic) c) Q E g := by
  refine ⟨trivial, fun r hr => ?_⟩
  cases (hr : r = .ok)
  exact h _ (Nat.succ_pos _)

theorem debugFmt_nonPoison (b : Option LockId) (S : Shape) : OpsIn nonPoisonOp (debugFmt b S) :=
  debugFmt_opsIn (fun _ _ => trivial) (fun _ => trivial) (fun _ _ => trivial) trivial b S

/-- `p` meets the obligation from every ghost state, and unwinds only after a panic has been
counted: so do `Debug` and, with it, the body of a hold -/
def UnwindsAfterPanic (p : Prog Unit α) : Prop :=
  ∀ g, wp PoisonSpec p (fun _ _ => True) (fun _ g' => 0 < g'.panics) g

theorem debugLeaf_unwinds (x : LockId) (m : Mode) (b : Nat) : UnwindsAfterPanic (debugLeaf x m b) := by
  intro g
  unfold debugLeaf
  refine pwp_lock trivial fun r _ _ hacq => ?_
  cases r with
  | no => trivial
  | panic => exact hacq rfl
  | ok =>
    refine ⟨trivial, fun _ _ => ?_⟩
    split
    · refine pwp_userPanic fun _ hp => pwp_lock trivial fun r' _ hle _ => ?_
      cases r' with
      | panic => trivial
      | _ => exact hle.pos hp
    · refine pwp_lock trivial fun r' _ _ hrel => ?_
      cases r' with
      | panic => exact hrel rfl
      | _ =>
        dsimp only
        split
        · exact pwp_userPanic fun _ hp => hp
        · trivial

theorem debugFmt_unwinds (b : Option LockId) (S : Shape) : UnwindsAfterPanic (debugFmt b S) :=
  debugFmt_induct debugLeaf_unwinds (fun _ => trivial) (fun hp hq g => (hp g).bind fun _ g1 _ => hq g1) b S

/-- post-conditions: the ghost only grew; after an unwind a panic has been counted -/
def Grew (g : PG) : α → PG → Prop := fun _ g' => g.Le g'
def GrewP (g : PG) : ε → PG → Prop := fun _ g' => g.Le g' ∧ 0 < g'.panics

theorem debugFmtL_poison (b : Option LockId) : ∀ (ss : List Shape) (g : PG),
    wp PoisonSpec (debugFmtL b ss) (Grew g) (GrewP (ε := Unit) g) g :=
  fun ss g =>
    (wp_and PoisonSpec _
      (poison_frame (debugFmt_nonPoison b (.seq ss)) (fun _ _ h => h) fun _ _ h => h)
      (debugFmt_unwinds b (.seq ss) g)).mono
    (fun _ _ h => h.1) fun _ _ h => h

theorem bodySteps_unwinds (C : Ctx) (S : Shape) (body : List BodyStep) :
    UnwindsAfterPanic (bodySteps C S body) := by
  induction body with
  | nil => exact fun _ => trivial
  | cons b body ih =>
    intro g
    cases b with
    | write | read => exact ⟨trivial, fun _ _ => ih _⟩
    | dbg c bomb =>
      -- `Debug` unwound after a panic: the end mark does not change the count
      exact ⟨trivial, fun _ _ => (debugFmt_unwinds _ _ _).bindX (fun _ _ hp => ⟨trivial, fun _ _ => hp⟩)
        fun _ _ _ => ⟨trivial, fun _ _ => ih _⟩⟩
    | getKey =>
      refine ⟨trivial, fun r _ => ?_⟩
      cases r with
      | ok => exact ⟨trivial, fun _ _ => ⟨trivial, fun _ _ => ih _⟩⟩
      | _ => exact ⟨trivial, fun _ _ => ih _⟩
    | isPoisoned c =>
      simp only [bodySteps]
      split
      · exact ⟨trivial, fun _ _ => ⟨trivial, fun _ _ => ih _⟩⟩
      · exact ih g
    | clearPoison c =>
      simp only [bodySteps]
      split
      · exact ⟨trivial, fun _ _ => ih _⟩
      · exact ih g

def poisonRefsOf : List GuardItem → List PoisonId
  | [] => []
  | .poisonRef p :: gs => p :: poisonRefsOf gs
  | .leaf _ _ :: gs => poisonRefsOf gs

/-- Dropping a guard: flags are set only while a panic is being unwound (`pk`), which requires that a
panic has been counted; dropped while unwinding, *every* `PoisonRef` inside has set its flag at the end
(C10 completeness for guards, of any shape). A guard's drop never unwinds: any `E` will do. -/
theorem guardDrop_poison {m : Mode} {items : List GuardItem} {pk : Bool} {E : Unit → PG → Prop} {g : PG}
    (hp : pk = true → 0 < g.panics) :
    wp PoisonSpec (guardDrop m items pk)
      (fun _ g' => g.Le g' ∧ (pk = true → ∀ p ∈ poisonRefsOf items, g'.flag p = true)) E g := by
  induction items generalizing g pk with
  | nil => exact ⟨.refl g, fun _ _ h => nomatch h⟩
  | cons it items ih =>
    cases it with
    | poisonRef p =>
      simp only [guardDrop]
      split
      · next hpk =>
        refine ⟨hp hpk, fun _ _ => (ih (g := g.set p true) hp).mono
          (fun _ g' h => ⟨(g.le_set p).trans h.1, fun _ q hq => ?_⟩) fun _ _ h => h⟩
        rcases List.mem_cons.1 hq with rfl | hq
        · exact h.1.2 _ (g.flag_set _ _)
        · exact h.2 hpk q hq
      · next hpk => exact (ih hp).mono (fun _ _ h => ⟨h.1, fun h' => absurd h' hpk⟩) fun _ _ h => h
    | leaf x isM =>
      refine pwp_lock trivial fun r g1 h1 hpan => ?_
      cases r with
      | panic =>
        show wp PoisonSpec (if pk then Prog.abort else guardDrop m items true) _ _ g1
        split
        · trivial
        · next hpk =>
          exact (ih fun _ => hpan rfl).mono (fun _ _ h => ⟨h1.trans h.1, fun h' => absurd h' hpk⟩) fun _ _ h => h
      | _ => exact (ih fun h => h1.pos (hp h)).mono (fun _ _ h => ⟨h1.trans h.1, h.2⟩) fun _ _ h => h

/-- The form the sessions use: a tail that touches no flag follows the drop, and the flags are claimed
under a condition `X` (the session ends in a panic) that holds only if the guard is dropped while unwinding. -/
theorem guardDrop_then {X : Prop} {m : Mode} {items : List GuardItem} {pk : Bool} {k : Bool → Prog Unit α} {g : PG}
    (hk : ∀ b, OpsIn nonPoisonOp (k b)) (hp : pk = true → 0 < g.panics) (hX : X → pk = true) :
    wp PoisonSpec ((guardDrop m items pk).bind k) (fun _ g' => X → ∀ p ∈ poisonRefsOf items, g'.flag p = true)
      (fun _ _ => True) g :=
  (guardDrop_poison hp).bind fun b _ h => poison_frame (hk b)
    (fun _ _ hle hx p hm => hle.2 p (h.2 (hX hx) p hm)) fun _ _ _ => trivial

theorem poisonRefsOf_append (a b : List GuardItem) : poisonRefsOf (a ++ b) = poisonRefsOf a ++ poisonRefsOf b := by
  induction a with
  | nil => rfl
  | cons x a ih => cases x <;> simp [poisonRefsOf, ih]

theorem poisonRefs_guardItems (S : Shape) : poisonRefsOf (guardItems S) = poisonIds S := by
  induction S using Shape.rec (motive_2 := fun ss => poisonRefsOf (guardItemsL ss) = poisonIdsL ss) with
  | mutex | rwlock | nil => rfl
  | poisonable p s ih => exact congrArg (p :: ·) ih
  | cons s ss ih ihs => rw [guardItemsL, poisonIdsL, poisonRefsOf_append, ih, ihs]
  | _ => assumption

theorem poisonRefs_guardItemsL : ∀ ss : List Shape, poisonRefsOf (guardItemsL ss) = poisonIdsL ss :=
  fun ss => poisonRefs_guardItems (.seq ss)

/-- **Guards poison on panic (C10, completeness for guards of any collection or wrapper).**
After a successful guard-API acquisition of shape `S`: whatever the body does and however the
guard goes away, flags are only set after a panic; and if the body panics (user panic) every
`Poisonable` inside `S` — the wrapper itself or any member of a collection — ends up poisoned. -/
theorem guardPhase_poison (C : Ctx) (hout : C.outer = false) (S : Shape) (ses : Session) (u' : UserSt) (g : PG) :
    wp PoisonSpec (guardPhase C S ses u')
      (fun _ g' => ses.exit = .panic → ∀ p ∈ poisonIds S, g'.flag p = true) (fun (_ : Unit) _ => True) g := by
  unfold guardPhase guardDropN
  rw [hout, ← poisonRefs_guardItems S, wp_bind]
  refine poison_frame (readPoison_opsIn (fun _ => trivial) _ _)
    (fun poisoned _ _ => ⟨trivial, fun _ _ => ?_⟩) fun _ _ _ => trivial
  -- dropped while a counted panic is being unwound (after the body unwound, or after a user panic) the guard
  -- sets every flag; dropped otherwise the session does not end in a panic, and nothing is claimed
  refine (bodySteps_unwinds C S ses.body _).bindX
    (fun _ _ hp2 => guardDrop_then (fun _ => .op₂ trivial trivial) (fun _ => hp2) fun _ => rfl) fun _ _ _ => ?_
  cases ses.exit with
  | forget => exact ⟨trivial, fun _ _ => nofun⟩
  | panic =>
    exact pwp_userPanic fun _ hp3 => guardDrop_then (fun _ => .op₂ trivial trivial) (fun _ => hp3) fun _ => rfl
  | unlock =>
    refine guardDrop_then (fun b => ?_) nofun nofun
    cases b
    · exact .op₁ trivial
    · exact .op₂ trivial trivial
  | _ => exact guardDrop_then (fun _ => .op₂ trivial trivial) nofun nofun

/-- **Own scoped closures poison on panic**; for a collection's scoped closure the flags of
`Poisonable` members are *not* set (finding D5: only the top-level wrapper's handler poisons). -/
theorem scopedHeld_poison (C : Ctx) (S : Shape) (ses : Session) (u' : UserSt) (g : PG) :
    wp PoisonSpec (scopedHeld C S ses u')
      (fun _ g' => ses.exit = .panic → ∀ p, isPoisonableTop S = some p → g'.flag p = true)
      (fun (_ : Unit) _ => True) g := by
  have hrel := ((toRaw_lockOnly C.W S).rel ses.mode).nonPoison
  have hunw : OpsIn nonPoisonOp (scopedUnwound ses u') := scopedUnwound_opsIn trivial trivial trivial ses u'
  unfold scopedHeld
  rw [wp_bind]
  refine poison_frame (readPoison_opsIn (fun _ => trivial) _ _)
    (fun poisoned _ _ => ⟨trivial, fun _ _ => ?_⟩) fun _ _ _ => trivial
  rw [wp_bindX, wp_handle]
  refine wp_mono PoisonSpec _ (Q := fun _ _ => ses.exit ≠ .panic) (E := fun _ g' => 0 < g'.panics) ?_ ?_ ?_
  · -- the closure returns only if the session does not end in a panic, and unwinds only after one
    refine (bodySteps_unwinds C S ses.body _).bind fun _ _ _ => ?_
    cases ses.exit with
    | panic => exact pwp_userPanic fun _ hp => hp
    | _ => exact nofun
  · -- returned: the release, the key and the marks touch no flag
    intro _ _ hne
    exact poison_frame (hrel.bindX (fun _ => hunw) fun _ => dropKeyIf_opsIn trivial (.op₂ trivial trivial))
      (fun _ _ _ hx => absurd hx hne) fun _ _ _ => trivial
  · -- unwound after a panic: the handler sets the flag of a `Poisonable`; however the release ends
    -- `scopedUnwound` follows, and the two as one program (`wp_bindX`) touch no flag
    intro _ g2 hp2
    have hrest := hrel.bindX (fun _ => hunw) fun _ => hunw
    split
    · next p hp =>
      refine ⟨hp2, fun _ _ => (wp_bindX ..).1 (poison_frame hrest (fun _ _ h3 _ q hq => h3.2 q ?_) fun _ _ _ => trivial)⟩
      exact Option.some.inj (hp.symm.trans hq) ▸ g2.flag_set p true
    · next hnone =>
      exact (wp_bindX ..).1 (poison_frame hrest (fun _ _ _ _ q hq => nomatch hnone.symm.trans hq) fun _ _ _ => trivial)

/-! ### soundness: every program meets the obligation

Post-conditions play no part here, so this composes like `OpsIn`. -/

/-- `p` meets the obligation from every ghost state, whatever the answers -/
def Sound (p : Prog ε α) : Prop := ∀ g, wp PoisonSpec p (fun _ _ => True) (fun _ _ => True) g

theorem Sound.of_opsIn {p : Prog ε α} (hp : OpsIn nonPoisonOp p) : Sound p :=
  fun _ => poison_frame hp (fun _ _ _ => trivial) fun _ _ _ => trivial

theorem Sound.of_wp {p : Prog ε α} {Q : α → PG → Prop} {E : ε → PG → Prop}
    (h : ∀ g, wp PoisonSpec p Q E g) : Sound p :=
  fun g => (h g).mono (fun _ _ _ => trivial) fun _ _ _ => trivial

theorem Sound.op {o : Op} {c : Resp → Prog ε α} (ho : ∀ g, poisonPre g o) (hc : ∀ r, Sound (c r)) :
    Sound (.op o c) :=
  fun g => ⟨ho g, fun r _ => hc r _⟩

theorem Sound.bindX {ε₁ β : Type} {p : Prog ε₁ β} {h : ε₁ → Prog ε α} {k : β → Prog ε α}
    (hp : Sound p) (hh : ∀ e, Sound (h e)) (hk : ∀ b, Sound (k b)) : Sound (p.bindX h k) :=
  fun g => (hp g).bindX (fun e g' _ => hh e g') fun b g' _ => hk b g'

theorem Sound.passesHead : PassesHead (Sound (ε := Unit) (α := Nat × UserSt)) where
  mark _ h := .op (fun _ => trivial) h
  lock hp hh hk := (Sound.of_opsIn hp.nonPoison).bindX hh hk

theorem guardSession_sound (C : Ctx) (hout : C.outer = false) (S : Shape) (ses : Session) (u : UserSt) :
    Sound (guardSession C S ses u) :=
  guardSession_cases Sound.passesHead (.of_opsIn (.op _ _ trivial fun _ => .op₂ trivial trivial))
    (.of_wp (guardPhase_poison C hout S ses _)) fun _ => trivial

theorem scopedSession_sound (C : Ctx) (S : Shape) (ses : Session) (u : UserSt) :
    Sound (scopedSession C S ses u) :=
  scopedSessionWith_cases Sound.passesHead (.of_opsIn (scopedUnwound_opsIn trivial trivial trivial ses _))
    (.of_wp (scopedHeld_poison C S ses _)) fun _ => trivial

theorem session_sound (C : Ctx) (hout : C.outer = false) (ses : Session) (u : UserSt) : Sound (session C ses u) :=
  session_cases C ses u (fun _ _ => trivial) (fun _ => guardSession_sound C hout _ ses u)
    fun _ => scopedSession_sound C _ ses u

theorem stmt_sound (C : Ctx) (hout : C.outer = false) (st : Stmt) (u : UserSt) : Sound (stmt C st u) := by
  cases st with
  | ses ses => exact (session_sound C hout ses u).bindX (fun _ _ => trivial) fun _ => .of_opsIn (.op₁ trivial)
  | get => exact .of_opsIn (.op _ _ trivial fun r => by cases r <;> exact .op₁ trivial)
  | dropKey | forgetKey =>
    simp only [stmt]
    split
    · exact .of_opsIn (.op₁ trivial)
    · exact .of_opsIn (.op₂ trivial trivial)
  | dbg c bomb =>
    exact .of_opsIn (.op _ _ trivial fun _ =>
      (debugFmt_nonPoison _ _).bindX (fun _ => .op₂ trivial trivial) fun _ => .op₂ trivial trivial)
  | isPoisoned c =>
    simp only [stmt]
    split
    · exact .of_opsIn (.op _ _ trivial fun _ => .op₁ trivial)
    · exact .of_opsIn (.op₁ trivial)
  | clearPoison c =>
    simp only [stmt]
    split
    · exact .op (fun _ => trivial) fun _ => .of_opsIn (.op₁ trivial)
    · exact .of_opsIn (.op₁ trivial)
  | tryNew kind s => exact .of_opsIn (.op₁ trivial)

theorem program_sound (C : Ctx) (hout : C.outer = false) (prog : List Stmt) (u : UserSt) :
    Sound (program C prog u) := by
  induction prog generalizing u with
  | nil => exact fun _ => trivial
  | cons st prog ih => exact (stmt_sound C hout st u).bindX (fun _ _ => trivial) ih

end HLV
