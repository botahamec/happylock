/-
  HLV.Logic.Shapes — every lockable shape, of any size and nesting depth, satisfies the lock
  contract `IsLock` with the footprint computed from `get_ptrs`.

  Facts of the form "every unit `get_ptrs` hands out / the `RawLock` impl of every shape has
  property P" all go the same way; the way is stated once, as two inductive descriptions of what
  those things are made of (`IsMember`, `IsRaw`), and each P is then an induction over these.

  Inductions over `Shape` itself, here and in the other files, are by `Shape.rec` with an explicit
  `motive_2` for the list inside a `seq`. The cases of `seq` and of the wrappers that the function
  at hand merely passes through are the induction hypothesis up to unfolding: they are closed
  together by `| _ => assumption`. The binders of a motive that is an implication or a `∀` are
  introduced by `induction` without names; `rename_i` names the last of them, in their order.
-/
import HLV.Logic.Contracts
namespace HLV

variable {n : Nat} {ro : RankOpt}

def ptrsM (ps : List Ptr) : Members := ps.map fun p => (p.lock, p.fp)

@[simp] theorem ptrsM_nil : ptrsM [] = [] := rfl
@[simp] theorem ptrsM_cons (p : Ptr) (ps : List Ptr) : ptrsM (p :: ps) = (p.lock, p.fp) :: ptrsM ps := rfl
theorem ptrsM_append (a b : List Ptr) : ptrsM (a ++ b) = ptrsM a ++ ptrsM b := List.map_append
theorem ptrsM_locks (ps : List Ptr) : Members.locks (ptrsM ps) = ps.map (·.lock) := List.map_map ..
theorem ptrsM_fp (ps : List Ptr) : Members.fp (ptrsM ps) = fun m => ps.flatMap (·.fp m) :=
  funext fun _ => List.flatMap_map ..

theorem sortPtrs_perm (ps : List Ptr) : (sortPtrs ps).Perm ps := List.mergeSort_perm ps _

theorem sortPtrs_mem {ps : List Ptr} {p : Ptr} : p ∈ sortPtrs ps ↔ p ∈ ps := (sortPtrs_perm ps).mem_iff

theorem mem_ptrsM_sort {ps : List Ptr} {q : RawLockM × FpFun} : q ∈ ptrsM (sortPtrs ps) ↔ q ∈ ptrsM ps :=
  ((sortPtrs_perm ps).map _).mem_iff

mutual
/-- Rank validity of what `get_ptrs` returns (vacuous without a rank): every owned unit's
interior (listing order of its units) is strictly rank-increasing. -/
def PtrsOK (ro : RankOpt) (W : World) : Shape → Prop
  | .mutex _ => True
  | .rwlock _ => True
  | .seq ss => PtrsOKL ro W ss
  | .poisonable _ s => PtrsOK ro W s
  | .boxed s => PtrsOK ro W s
  | .refc s => PtrsOK ro W s
  | .retry s => PtrsOK ro W s
  | .owned _ s => PtrsOK ro W s ∧ ∀ m, Members.Chain ro (ptrsM (getPtrs W s)) m
def PtrsOKL (ro : RankOpt) (W : World) : List Shape → Prop
  | [] => True
  | s :: ss => PtrsOK ro W s ∧ PtrsOKL ro W ss
end

/-- Rank validity of a shape that is locked through its own `RawLock` impl: in addition the
acquisition order of a sorting collection (its address-sorted units) is strictly
rank-increasing. Nothing is required of a retrying collection's listing. -/
def ShapeOK (ro : RankOpt) (W : World) : Shape → Prop
  | .mutex _ => True
  | .rwlock _ => True
  | .seq _ => True
  | .poisonable _ s => ShapeOK ro W s
  | .boxed s => PtrsOK ro W s ∧ ∀ m, Members.Chain ro (ptrsM (sortPtrs (getPtrs W s))) m
  | .refc s => PtrsOK ro W s ∧ ∀ m, Members.Chain ro (ptrsM (sortPtrs (getPtrs W s))) m
  | .retry s => PtrsOK ro W s
  | .owned _ s => PtrsOK ro W s ∧ ∀ m, Members.Chain ro (ptrsM (getPtrs W s)) m

theorem chain_none (ms : Members) (m : Mode) : Members.Chain none ms m :=
  List.pairwise_of_forall fun _ _ => trivial

theorem ptrsOK_none (W : World) (S : Shape) : PtrsOK none W S := by
  induction S using Shape.rec (motive_2 := PtrsOKL none W) with
  | mutex | rwlock | nil => trivial
  | cons _ _ ih ihs => exact ⟨ih, ihs⟩
  | owned _ _ ih => exact ⟨ih, chain_none _⟩
  | _ => assumption

theorem ptrsOKL_none (W : World) : ∀ ss : List Shape, PtrsOKL none W ss :=
  fun ss => ptrsOK_none W (.seq ss)

theorem shapeOK_none (W : World) : ∀ S : Shape, ShapeOK none W S
  | .mutex _ => trivial
  | .rwlock _ => trivial
  | .seq _ => trivial
  | .poisonable _ s => shapeOK_none W s
  | .boxed s | .refc s | .owned _ s => ⟨ptrsOK_none W s, chain_none _⟩
  | .retry s => ptrsOK_none W s

/-- A unit that `get_ptrs` hands to an enclosing collection (as trait object and footprint): a leaf
lock, or an owned group of such units, taken in listing order — which, under a rank, has to be a
chain. -/
inductive IsMember (ro : RankOpt) : RawLockM × FpFun → Prop
  | mutex (x : LockId) : IsMember ro (mutexLeaf x, fun _ => [(x, .excl)])
  | rwlock (x : LockId) : IsMember ro (rwLeaf x, fun m => [(x, m)])
  | owned (ms : Members) : (∀ q ∈ ms, IsMember ro q) → (∀ m, Members.Chain ro ms m) →
      IsMember ro (orderedLock ms.locks, ms.fp)

theorem getPtrs_isMember (W : World) (S : Shape) :
    PtrsOK ro W S → ∀ q ∈ ptrsM (getPtrs W S), IsMember ro q := by
  induction S using Shape.rec
    (motive_2 := fun ss => PtrsOKL ro W ss → ∀ q ∈ ptrsM (getPtrsL W ss), IsMember ro q) with
  | mutex x => exact fun _ => List.forall_mem_singleton.2 (.mutex x)
  | rwlock x => exact fun _ => List.forall_mem_singleton.2 (.rwlock x)
  | owned a s ih =>
    -- the group is handed out as one unit: `IsMember.owned` over the list inside, whose locks and holds `get_ptrs`
    -- writes with `map` and `flatMap`
    exact fun h => List.forall_mem_singleton.2 (ptrsM_locks _ ▸ ptrsM_fp _ ▸ IsMember.owned _ (ih h.1) h.2 :)
  | boxed s ih | refc s ih => exact fun h q hq => ih h q (mem_ptrsM_sort.1 hq)
  | nil => rename_i hq; cases hq
  | cons s ss ih ihs =>
    rename_i h q hq
    rw [getPtrsL, ptrsM_append] at hq
    exact (List.mem_append.1 hq).elim (ih h.1 q) (ihs h.2 q)
  | _ => assumption

/-- The footprint of the shape's own `RawLock` impl. -/
def shapeFp (W : World) : Shape → FpFun
  | .mutex x => fun _ => [(x, .excl)]
  | .rwlock x => fun m => [(x, m)]
  | .seq _ => fun _ => []
  | .poisonable _ s => shapeFp W s
  | .boxed s => Members.fp (ptrsM (sortPtrs (getPtrs W s)))
  | .refc s => Members.fp (ptrsM (sortPtrs (getPtrs W s)))
  | .retry s => Members.fp (ptrsM (getPtrs W s))
  | .owned _ s => Members.fp (ptrsM (getPtrs W s))

/-- The shape's type implements `RawLock` (plain containers do not). -/
def lockable : Shape → Bool
  | .seq _ => false
  | .poisonable _ s => lockable s
  | _ => true

/-- the shape's own blocking acquisition goes through its members in one fixed order (leaves,
sorting and owned collections, wrappers around them; not the retrying collection) -/
def inOrder : Shape → Bool
  | .mutex _ => true
  | .rwlock _ => true
  | .seq _ => false
  | .poisonable _ s => inOrder s
  | .boxed _ => true
  | .refc _ => true
  | .retry _ => false
  | .owned _ _ => true

/-- The `RawLock` impl of a lockable shape with its footprint: a leaf, one ordered walk over
units (sorted by address for the boxed and ref collections, in listing order for the owned one),
or the retrying loop over units. The flag says whether the walk has one fixed order. An ordered walk
is `IsMember.owned` over the list in acquisition order, whichever collection makes it: that is why
`member` covers the boxed and ref collections as well. -/
inductive IsRaw (ro : RankOpt) (fuel : Nat) : RawLockM → FpFun → Bool → Prop
  | member (q : RawLockM × FpFun) : IsMember ro q → IsRaw ro fuel q.1 q.2 true
  | retry (ms : Members) : (∀ q ∈ ms, IsMember ro q) → IsRaw ro fuel (retryLock fuel ms.locks) ms.fp false

theorem toRaw_isRaw (W : World) : ∀ S : Shape, lockable S = true → ShapeOK ro W S →
    IsRaw ro W.fuel (toRaw W S) (shapeFp W S) (inOrder S)
  | .mutex x, _, _ => .member _ (.mutex x)
  | .rwlock x, _, _ => .member _ (.rwlock x)
  | .seq _, h, _ => nomatch h
  | .poisonable _ s, h, hk => toRaw_isRaw W s h hk
  -- the constructors speak of `Members.locks (ptrsM ps)`, `toRaw?` of `ps.map (·.lock)`: the same by `ptrsM_locks`,
  -- and with that the statement unfolds to the constructor's
  | .boxed s, _, hk | .refc s, _, hk =>
    (ptrsM_locks _ ▸
      IsRaw.member _ (.owned _ (fun q hq => getPtrs_isMember W s hk.1 q (mem_ptrsM_sort.1 hq)) hk.2) :)
  | .retry s, _, hk => (ptrsM_locks _ ▸ IsRaw.retry _ (getPtrs_isMember W s hk) :)
  | .owned _ s, _, hk => (ptrsM_locks _ ▸ IsRaw.member _ (.owned _ (getPtrs_isMember W s hk.1) hk.2) :)

theorem IsMember.isLock {q : RawLockM × FpFun} (h : IsMember ro q) : IsLock n ro q.1 q.2 := by
  induction h with
  | mutex x => exact isLock_mutexLeaf x
  | rwlock x => exact isLock_rwLeaf x
  | owned ms _ hch ih => exact isLock_ordered ms ih hch

theorem getPtrs_ok (W : World) (S : Shape) (h : PtrsOK ro W S) : (ptrsM (getPtrs W S)).Ok n ro :=
  fun q hq => (getPtrs_isMember W S h q hq).isLock

theorem getPtrsL_ok (W : World) : ∀ ss : List Shape, PtrsOKL ro W ss → (ptrsM (getPtrsL W ss)).Ok n ro :=
  fun ss => getPtrs_ok W (.seq ss)

theorem IsRaw.isLock {fuel : Nat} {L : RawLockM} {fp : FpFun} {b : Bool} (h : IsRaw ro fuel L fp b) :
    IsLock n ro L fp := by
  cases h with
  | member q hq => exact hq.isLock
  | retry ms hm => exact isLock_retry fuel ms fun q hq => (hm q hq).isLock

/-- **Every lockable shape is a lock**: any kind, any size, any nesting, any mode, any answers. -/
theorem toRaw_isLock (W : World) (S : Shape) (hl : lockable S = true) (hk : ShapeOK ro W S) :
    IsLock n ro (toRaw W S) (shapeFp W S) :=
  (toRaw_isRaw W S hl hk).isLock

theorem sortPtrs_fp_perm (ps : List Ptr) (m : Mode) :
    (Members.fp (ptrsM (sortPtrs ps)) m).Perm (Members.fp (ptrsM ps) m) := by
  rw [ptrsM_fp, ptrsM_fp]
  exact (sortPtrs_perm ps).flatMap_right _

theorem getPtrs_fp_perm (W : World) (m : Mode) (S : Shape) :
    (Members.fp (ptrsM (getPtrs W S)) m).Perm (holdsOf S m) := by
  induction S using Shape.rec
    (motive_2 := fun ss => (Members.fp (ptrsM (getPtrsL W ss)) m).Perm (holdsOfL ss m)) with
  | mutex x | rwlock x | nil => exact .refl _
  | boxed s ih | refc s ih => exact (sortPtrs_fp_perm _ m).trans ih
  | owned a s ih => simpa [getPtrs, holdsOf, Members.fp, ← ptrsM_fp] using ih
  | cons s ss ih ihs => simpa [getPtrsL, holdsOfL, ptrsM_append, Members.fp_append] using ih.append ihs
  | _ => assumption

theorem getPtrsL_fp_perm (W : World) (m : Mode) :
    ∀ ss : List Shape, (Members.fp (ptrsM (getPtrsL W ss)) m).Perm (holdsOfL ss m) :=
  fun ss => getPtrs_fp_perm W m (.seq ss)

/-- For every lockable shape the set of holds an acquisition obtains is a permutation of the
declared leaves — each leaf exactly once, whatever the kind, arrangement and nesting. -/
theorem shapeFp_perm (W : World) (m : Mode) : ∀ S : Shape, lockable S = true →
    (shapeFp W S m).Perm (holdsOf S m)
  | .mutex _, _ | .rwlock _, _ => .refl _
  | .seq _, h => nomatch h
  | .poisonable _ s, h => shapeFp_perm W m s h
  | .boxed s, _ | .refc s, _ => (sortPtrs_fp_perm _ m).trans (getPtrs_fp_perm W m s)
  | .retry s, _ | .owned _ s, _ => getPtrs_fp_perm W m s

/-! ### guards: the leaves a guard releases are the holds of its shape, in declared order -/

def itemsFp (m : Mode) : List GuardItem → Fp
  | [] => []
  | .leaf x isMutex :: gs => (x, if isMutex then .excl else m) :: itemsFp m gs
  | .poisonRef _ :: gs => itemsFp m gs

theorem itemsFp_append (m : Mode) (a b : List GuardItem) :
    itemsFp m (a ++ b) = itemsFp m a ++ itemsFp m b := by
  induction a with
  | nil => rfl
  | cons x a ih =>
    cases x with
    | leaf => exact congrArg (_ :: ·) ih
    | poisonRef => exact ih

theorem itemsFp_guardItems (m : Mode) (S : Shape) : itemsFp m (guardItems S) = holdsOf S m := by
  induction S using Shape.rec (motive_2 := fun ss => itemsFp m (guardItemsL ss) = holdsOfL ss m) with
  | mutex | rwlock | nil => rfl
  | cons s ss ih ihs => rw [guardItemsL, holdsOfL, itemsFp_append, ih, ihs]
  -- the wrappers add no leaf: both sides unfold to the inner shape's
  | _ => assumption

theorem itemsFp_guardItemsL (m : Mode) : ∀ ss : List Shape, itemsFp m (guardItemsL ss) = holdsOfL ss m :=
  fun ss => itemsFp_guardItems m (.seq ss)

theorem declLeaves_eq (m : Mode) (S : Shape) : declLeaves S = (holdsOf S m).map (·.1) := by
  induction S using Shape.rec (motive_2 := fun ss => declLeavesL ss = (holdsOfL ss m).map (·.1)) with
  | mutex | rwlock | nil => rfl
  | cons s ss ih ihs => rw [declLeavesL, holdsOfL, List.map_append, ih, ihs]
  | _ => assumption

theorem declLeavesL_eq (m : Mode) : ∀ ss : List Shape, declLeavesL ss = (holdsOfL ss m).map (·.1) :=
  fun ss => declLeaves_eq m (.seq ss)

end HLV
