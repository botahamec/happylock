/-
  HLV.Logic.Sessions — the API level: guards, Debug, closures, the four API flavours on every
  lockable kind, statements and whole client programs, all under `HoldSpec n ro`.

  The obligations of `HoldSpec` read two components of the ghost only: what the thread holds and
  how deep it is inside calls that must not block. So every component of the API is specified
  from one such pair to another (`At`); the fault counters `stuck` and `panics` stay free. A
  component that cannot unwind is specified for every unwind postcondition `E`.
-/
import HLV.Logic.OpsIn
namespace HLV
open Prog

variable {n : Nat} {ro : RankOpt} {ε α : Type}

/-- what the type system allows a body to do with a guard / closure argument of shape `S`
taken in mode `m`: positions exist, writes only through exclusive positions -/
def stepOK (S : Shape) (m : Mode) : BodyStep → Prop
  | .write pos _ => ∃ x, (holdsOf S m)[pos]? = some (x, Mode.excl)
  | .read pos => pos < (holdsOf S m).length
  | _ => True

/-- The sessions a well-typed client can write: the collection is lockable, the guard is not
leaked with `mem::forget` (C01/C05 speak about guards that are dropped), the body uses the
guard's positions as their types allow. -/
structure SesOK (ro : RankOpt) (C : Ctx) (ses : Session) : Prop where
  lockable : lockable (C.shape ses.coll) = true
  shapeOK : ShapeOK ro C.W (C.shape ses.coll)
  noForget : ses.exit ≠ .forget
  body : ∀ b ∈ ses.body, stepOK (C.shape ses.coll) ses.mode b

def StmtOK (ro : RankOpt) (C : Ctx) : Stmt → Prop
  | .ses ses => SesOK ro C ses
  | _ => True

/-- `bodySteps` names a lock by its position among the declared leaves: the thread holds it, in the
mode `holdsOf` lists it with -/
theorem held_at_pos {S : Shape} {m : Mode} {h : Held} (hc : h.Covers (holdsOf S m)) {pos : Nat}
    {q : LockId × Mode} (hx : (holdsOf S m)[pos]? = some q) :
    0 < h ((declLeaves S).getD pos 0) q.2 := by
  rw [declLeaves_eq m S, List.getD_eq_getElem?_getD, List.getElem?_map, hx]
  exact hc.mem_pos (List.mem_of_getElem? hx)

theorem SesOK.isLock {C : Ctx} {ses : Session} (hok : SesOK ro C ses) :
    IsLock n ro (toRaw C.W (C.shape ses.coll)) (shapeFp C.W (C.shape ses.coll)) :=
  toRaw_isLock C.W _ hok.lockable hok.shapeOK

theorem SesOK.plus {C : Ctx} {ses : Session} (hok : SesOK ro C ses) :
    Held.empty.plus (shapeFp C.W (C.shape ses.coll) ses.mode) =
      Held.empty.plus (holdsOf (C.shape ses.coll) ses.mode) :=
  Held.plus_perm _ (shapeFp_perm C.W _ _ hok.lockable)

/-- The thread holds exactly `h` and is `d` non-blocking calls deep: the form in which the theorems
of the hold family state their pre- and postconditions. -/
abbrev At (h : Held) (d : Nat) (g : HG) : Prop := g.held = h ∧ g.depth = d

theorem At.held {h : Held} {d : Nat} {g : HG} (hg : At h d g) : g.held = h := hg.1
theorem At.depth {h : Held} {d : Nat} {g : HG} (hg : At h d g) : g.depth = d := hg.2

section
variable {c : Resp → Prog ε α} {Q : α → HG → Prop} {E : ε → HG → Prop} {g : HG} {h : Held}
  {d : Nat}

theorem wp_mark_upd {k : Nat}
    (hk : k = mkKeyBack ∨ k = mkBeginBlocking ∨ k = mkBeginTry → g.held = Held.empty)
    (hc : wp (HoldSpec n ro) (c .ok) Q E { g with depth := markDepth k g.depth }) :
    wp (HoldSpec n ro) (.op (.mark k) c) Q E g := by
  refine ⟨fun hk' x m => by rw [hk hk']; rfl, fun r hr => ?_⟩
  obtain rfl : r = .ok := hr
  show wp _ _ Q E (holdUpd g (.mark k) .ok)
  rwa [holdUpd_mark]

/-- operations the hold discipline has nothing to say about: those on the key and the poison
flags that cannot fail, and the marks that only annotate the trace -/
abbrev Op.idle : Op → Prop
  | .keyDrop | .keyForget | .poisonSet _ | .poisonClear _ => True
  | .mark k => mkBody ≤ k
  | _ => False

theorem wp_idle {o : Op} (hc : wp (HoldSpec n ro) (c .ok) Q E g)
    (ho : o.idle := by trivial) : wp (HoldSpec n ro) (.op o c) Q E g := by
  cases o with
  | keyDrop | keyForget | poisonSet | poisonClear =>
    exact ⟨trivial, fun r hr => (hr : r = .ok) ▸ hc⟩
  | mark k =>
    have hk : mkBody ≤ k := ho
    refine wp_mark_upd (fun hk' => absurd hk' ?_) (by rwa [markDepth_of_le hk])
    simp only [mkKeyBack, mkBeginBlocking, mkBeginTry, mkBody] at hk ⊢
    omega
  | _ => exact ho.elim

/-- the two questions (is the key free? is the flag up?): answered `ok` or `no` -/
abbrev Op.probe : Op → Prop
  | .keyGet | .poisonGet _ => True
  | _ => False

theorem wp_probe {o : Op} (hok : wp (HoldSpec n ro) (c .ok) Q E g) (hno : wp (HoldSpec n ro) (c .no) Q E g)
    (ho : o.probe := by exact trivial) : wp (HoldSpec n ro) (.op o c) Q E g := by
  cases o with
  | keyGet | poisonGet =>
    refine ⟨trivial, fun r hr => ?_⟩
    cases r with
    | ok => exact hok
    | no => exact hno
    | panic => exact absurd rfl hr
  | _ => exact ho.elim

/-- A mark. Handing the key back and opening an acquiring call want empty hands (`hk := .inl …`), no
other mark wants anything; the depth moves as `markDepth` says. -/
theorem wp_mark {k : Nat} (hg : At h d g)
    (hc : ∀ {g'}, At h (markDepth k d) g' → wp (HoldSpec n ro) (c .ok) Q E g')
    (hk : h = Held.empty ∨ ¬(k = mkKeyBack ∨ k = mkBeginBlocking ∨ k = mkBeginTry) := by
      exact .inr (by decide)) :
    wp (HoldSpec n ro) (.op (.mark k) c) Q E g :=
  wp_mark_upd (fun hk' => hg.held.trans (hk.resolve_right (not_not_intro hk')))
    (hc ⟨hg.held, congrArg (markDepth k) hg.depth⟩)

theorem wp_access {x : LockId} {w : Option Nat} {m' : Mode} (hg : At h d g) (hpos : 0 < h x m')
    (hw : w = none ∨ m' = .excl) (hc : wp (HoldSpec n ro) (c .ok) Q E g) :
    wp (HoldSpec n ro) (.op (.access x w) c) Q E g := by
  refine ⟨?_, fun r hr => (hr : r = .ok) ▸ hc⟩
  rw [← hg.held] at hpos
  cases w with
  | some v => obtain rfl := hw.resolve_left nofun; exact hpos
  | none =>
    cases m'
    · exact .inr hpos
    · exact .inl hpos

/-- releasing a hold: it is gone whether the release returns (`hok`) or panics (`hpanic`) -/
theorem wp_rel {x : LockId} {m : Mode} (hg : At h d g) (hpos : 0 < h x m)
    (hok : ∀ {g'}, At (h.sub x m) d g' → wp (HoldSpec n ro) (c .ok) Q E g')
    (hpanic : ∀ {g'}, At (h.sub x m) d g' → wp (HoldSpec n ro) (c .panic) Q E g') :
    wp (HoldSpec n ro) (.op (.rel m x) c) Q E g := by
  refine ⟨(hg.held ▸ hpos : 0 < g.held x m), fun r hr => ?_⟩
  cases r with
  | ok => exact hok ⟨congrArg (·.sub x m) hg.held, hg.depth⟩
  | no => exact absurd rfl hr.1
  | panic => exact hpanic ⟨congrArg (·.sub x m) hg.held, hg.depth⟩

end

section
variable {g : HG} {h : Held} {d : Nat} {E : Unit → HG → Prop}

theorem At.of_eq {g' : HG} (hg : At h d g) (a : g'.held = g.held) (b : g'.depth = g.depth) :
    At h d g' :=
  ⟨a.trans hg.held, b.trans hg.depth⟩

theorem At.setHeld (hg : At h d g) (f : Held → Held) : At (f h) d { g with held := f g.held } :=
  ⟨congrArg f hg.held, hg.depth⟩

theorem readPoison_spec {ps : List PoisonId} {b : Bool} (hg : At h d g) :
    wp (HoldSpec n ro) (readPoison ps b) (fun _ => At h d) E g := by
  induction ps generalizing b with
  | nil => exact hg
  | cons p ps ih => exact wp_probe ih ih

/-- Dropping a guard releases exactly the leaves, each once, in its mode — whether or not a
release panics on the way, and also while unwinding. It never unwinds by itself. -/
theorem guardDropG_spec {always : Bool} {m : Mode} {items : List GuardItem} {pk : Bool}
    (hg : At h d g) (hc : h.Covers (itemsFp m items)) :
    wp (HoldSpec n ro) (guardDropG always m items pk) (fun _ => At (h.minus (itemsFp m items)) d) E g := by
  induction items generalizing g h pk with
  | nil => exact Held.minus_nil h ▸ hg
  | cons it items ih =>
    cases it with
    | poisonRef p =>
      simp only [guardDropG]
      split
      · exact wp_idle (ih hg hc)
      · exact ih hg hc
    | leaf x isMutex =>
      simp only [guardDropG, itemsFp] at hc ⊢
      generalize (if isMutex = true then Mode.excl else m) = m' at hc ⊢
      obtain ⟨hc1, hc2⟩ := Held.Covers.append (a := [(x, m')]) hc
      rw [show h.minus ((x, m') :: itemsFp m items) = (h.sub x m').minus (itemsFp m items) from
        Held.minus_append h [_] _]
      refine wp_rel hg hc1.pos (fun hg' => ih hg' hc2) fun hg' => ?_
      -- a release that panics while a panic is already unwinding aborts
      dsimp only
      split
      · trivial
      · exact ih hg' hc2

theorem guardDropG_shape {always : Bool} {m : Mode} {S : Shape} {pk : Bool} (hg : At h d g)
    (hc : h.Covers (holdsOf S m)) :
    wp (HoldSpec n ro) (guardDropG always m (guardItems S) pk) (fun _ => At (h.minus (holdsOf S m)) d) E g := by
  rw [← itemsFp_guardItems] at hc ⊢
  exact guardDropG_spec hg hc

theorem guardDropG_all {always : Bool} {m : Mode} {S : Shape} {pk : Bool}
    (hg : At (Held.empty.plus (holdsOf S m)) d g) :
    wp (HoldSpec n ro) (guardDropG always m (guardItems S) pk) (fun _ => At Held.empty d) E g :=
  Held.minus_plus Held.empty (holdsOf S m) ▸ guardDropG_shape hg (Held.covers_plus _ _)

/-! ### Debug (C17): never blocks, leaves the caller's holds as it found them -/

theorem debugLeaf_spec {x : LockId} {m : Mode} {b : Nat} (hg : At h d g) :
    wp (HoldSpec n ro) (debugLeaf x m b) (fun _ => At h d) (fun _ => At h d) g := by
  have hpos : 0 < (h.add x m) x m := (h.covers_plus [(x, m)]).pos
  unfold debugLeaf
  -- trying a lock carries no obligation
  refine ⟨trivial, fun r hr => ?_⟩
  cases r with
  | no => exact hg
  | panic => exact ⟨hg.held, hg.depth⟩
  | ok =>
    -- the transient hold is given back on every way out
    have hg1 := hg.setHeld (·.add x m)
    refine wp_access hg1 hpos (.inl rfl) ?_
    have hback : ∀ {g'}, At ((h.add x m).sub x m) d g' → At h d g' := fun hg2 => Held.add_sub h x m ▸ hg2
    split
    · exact wp_idle (wp_rel hg1 hpos hback fun _ => trivial)
    · refine wp_rel hg1 hpos (fun hg2 => ?_) hback
      dsimp only
      split
      · exact wp_idle (hback hg2)
      · exact hback hg2

theorem debugFmt_spec (b : Option LockId) (S : Shape) (hg : At h d g) :
    wp (HoldSpec n ro) (debugFmt b S) (fun _ => At h d) (fun _ => At h d) g :=
  debugFmt_induct (M := fun p => ∀ g, At h d g → wp (HoldSpec n ro) p (fun _ => At h d) (fun _ => At h d) g)
    (fun _ _ _ _ => debugLeaf_spec) (fun _ => id) (fun hp hq _ hg => (hp _ hg).bind fun _ => hq) b S g hg

/-- `Debug` formatting as a call of its own, as statements and guard bodies make it: one level
deeper inside, nothing changed once its end is marked — returning (`Y`) or unwinding (`X`). -/
theorem debugCall_spec {b : Option LockId} {S : Shape} {β : Type} {X Y : Prog Unit β}
    {Q : β → HG → Prop} (hg : At h d g) (hX : ∀ {g'}, At h d g' → wp (HoldSpec n ro) X Q E g')
    (hY : ∀ {g'}, At h d g' → wp (HoldSpec n ro) Y Q E g') :
    wp (HoldSpec n ro)
      (op (.mark mkBeginNonAcq) fun _ => bindX (debugFmt b S)
        (fun _ => op (.mark mkEndCall) fun _ => X) (fun _ => op (.mark mkEndCall) fun _ => Y))
      Q E g :=
  wp_mark hg fun hg1 => (debugFmt_spec b S hg1).bindX
    (fun _ _ hg2 => wp_mark hg2 hX) fun _ _ hg2 => wp_mark hg2 hY

theorem bodySteps_spec (C : Ctx) {S : Shape} {m : Mode} {body : List BodyStep} (hg : At h d g)
    (hc : h.Covers (holdsOf S m)) (hok : ∀ b ∈ body, stepOK S m b) :
    wp (HoldSpec n ro) (bodySteps C S body) (fun _ => At h d) (fun _ => At h d) g := by
  induction body generalizing g with
  | nil => exact hg
  | cons b body ih =>
    obtain ⟨hb, hok⟩ := List.forall_mem_cons.1 hok
    replace ih := fun {g} (hg : At h d g) => ih hg hok
    cases b with
    | write pos v =>
      obtain ⟨x, hx⟩ := hb
      exact wp_access hg (held_at_pos hc hx) (.inr rfl) (ih hg)
    | read pos => exact wp_access hg (held_at_pos hc (List.getElem?_eq_getElem hb)) (.inl rfl) (ih hg)
    | dbg c bomb => exact debugCall_spec hg (fun hg' => hg') ih
    | getKey => exact wp_probe (wp_idle (wp_idle (ih hg))) (wp_idle (ih hg))
    | isPoisoned c =>
      simp only [bodySteps]
      split
      · exact wp_probe (wp_idle (ih hg)) (wp_idle (ih hg))
      · exact ih hg
    | clearPoison c =>
      simp only [bodySteps]
      split
      · exact wp_idle (ih hg)
      · exact ih hg

/-- how an acquiring call ends: it reports an outcome (the marks from `mkOutOk` on) holding
nothing, `d` calls deep -/
structure Ended (d : Nat) (r : Nat × UserSt) (g : HG) : Prop where
  out : mkOutOk ≤ r.1
  empty : At Held.empty d g

theorem wp_keyBack {out : Nat} {u : UserSt} (hg : At Held.empty d g) (ho : mkOutOk ≤ out := by decide) :
    wp (HoldSpec n ro) (op (.mark mkKeyBack) fun _ => done (out, u)) (Ended d) E g :=
  wp_mark hg (hk := .inl rfl) fun hg' => ⟨ho, hg'⟩

/-- The two marks that end a call which gives the key back with nothing held. `mkEndCall` also ends
a blocking call, which runs at depth 0 (only `try_*` and non-acquiring calls count as a level): there
`d - 1` is `0 - 1 = 0`, and that is why the depth after a call is written `d - 1` for both kinds. -/
theorem callEnd_spec {out : Nat} {u : UserSt} (hg : At Held.empty d g) (ho : mkOutOk ≤ out := by decide) :
    wp (HoldSpec n ro) (op (.mark mkEndCall) fun _ => op (.mark mkKeyBack) fun _ => done (out, u))
      (Ended (d - 1)) E g :=
  wp_mark hg fun hg' => wp_keyBack hg' ho

theorem guardPhase_spec (C : Ctx) (ses : Session) (u : UserSt) (hok : SesOK ro C ses)
    (hg : At (Held.empty.plus (holdsOf (C.shape ses.coll) ses.mode)) d g) :
    wp (HoldSpec n ro) (guardPhase C (C.shape ses.coll) ses u) (Ended (d - 1)) E g := by
  simp only [guardPhase, guardDrop_eq, guardDropN_eq]
  refine (readPoison_spec hg).bind fun poisoned _ hg1 => wp_mark hg1 fun hg2 => ?_
  have hout : mkOutOk ≤ if poisoned then mkOutPoisoned else mkOutOk := le_ite (by decide) (by decide)
  -- if the body unwinds (a `Debug` in it hit a raw fault) the guard is dropped by the unwinding,
  -- then the key: as after a user panic
  refine (bodySteps_spec C hg2 (Held.covers_plus _ _) hok.body).bindX
    (fun _ _ hg3 => (guardDropG_all hg3).bind fun _ _ hg4 => wp_idle (wp_keyBack hg4)) fun _ _ hg3 => ?_
  split
  next hexit => exact absurd hexit hok.noForget
  -- a user panic
  · exact wp_idle ((guardDropG_all hg3).bind fun _ _ hg4 => wp_idle (wp_keyBack hg4))
  -- `unlock`: the key comes back to the caller unless a release panicked
  · refine (guardDropG_all hg3).bind fun panicked _ hg4 => ?_
    cases panicked
    · exact wp_keyBack hg4 hout
    · exact wp_idle (wp_keyBack hg4)
  -- the guard is dropped, or goes out of scope
  · exact (guardDropG_all hg3).bind fun _ _ hg4 =>
      wp_idle (wp_keyBack hg4 (le_ite (by decide) hout))

section calls
variable {L : RawLockM} {fp : FpFun} {m : Mode} {H : Held} {β : Type} {Q : β → HG → Prop}

/-- A `try_*` call on a lock whose footprint makes up the holds `H`, entered empty-handed, runs
one level deeper: `held` starts holding `H`, `refused` and `unwound` holding nothing. -/
theorem tryCall_spec {held refused unwound : Prog Unit β} (hL : IsLock n ro L fp)
    (hH : Held.empty.plus (fp m) = H) (hg : At Held.empty d g)
    (hheld : ∀ {g'}, At H (d + 1) g' → wp (HoldSpec n ro) held Q E g')
    (hrefused : ∀ {g'}, At Held.empty (d + 1) g' → wp (HoldSpec n ro) refused Q E g')
    (hunwound : ∀ {g'}, At Held.empty (d + 1) g' → wp (HoldSpec n ro) unwound Q E g') :
    wp (HoldSpec n ro)
      (op (.mark mkBeginTry) fun _ => bindX (L.try_ m) (fun _ => unwound) fun b =>
        if b then held else refused) Q E g := by
  refine wp_mark hg (hk := .inl rfl) fun {g1} hg1 => ?_
  rw [wp_bindX]
  exact hL.try_ m g1 _ _ (hheld (hH ▸ hg1.setHeld (·.plus (fp m)))) (hrefused hg1)
    fun _ a b _ => hunwound (hg1.of_eq a b)

/-- A blocking acquiring call: only outside every call that must not block, and it cannot be refused. -/
theorem blockingCall_spec {held unwound : Prog Unit β} (hL : IsLock n ro L fp)
    (hH : Held.empty.plus (fp m) = H) (hg : At Held.empty 0 g)
    (hheld : ∀ {g'}, At H 0 g' → wp (HoldSpec n ro) held Q E g')
    (hunwound : ∀ {g'}, At Held.empty 0 g' → wp (HoldSpec n ro) unwound Q E g') :
    wp (HoldSpec n ro)
      (op (.mark mkBeginBlocking) fun _ => bindX (L.acq m) (fun _ => unwound) fun _ => held) Q E g := by
  refine wp_mark hg (hk := .inl rfl) fun {g1} hg1 => ?_
  rw [wp_bindX]
  exact hL.acq m g1 _ _ hg1.depth (hg1.held ▸ LowFp_empty _ _)
    (hheld (hH ▸ hg1.setHeld (·.plus (fp m)))) fun _ a b _ => hunwound (hg1.of_eq a b)

theorem relAll_spec (hL : IsLock n ro L fp) (hH : Held.empty.plus (fp m) = H) (hg : At H d g) :
    wp (HoldSpec n ro) (L.rel m) (fun _ => At Held.empty d) (fun _ => At Held.empty d) g := by
  subst hH
  have hg' := Held.minus_plus Held.empty (fp m) ▸ hg.setHeld (·.minus (fp m))
  exact hL.rel m g _ _ (hg.held ▸ Held.covers_plus _ _) hg' fun _ a b _ => hg'.of_eq a b

/-- the unwind handler of a scoped call: (poison,) release everything -/
theorem unwindHandler_spec {o : Option PoisonId} (hL : IsLock n ro L fp)
    (hH : Held.empty.plus (fp m) = H) (hg : At H d g) :
    wp (HoldSpec n ro)
      (match o with
        | some p => op (.poisonSet p) fun _ => L.rel m
        | none => L.rel m)
      (fun _ => At Held.empty d) (fun _ => At Held.empty d) g := by
  cases o
  · exact relAll_spec hL hH hg
  · exact wp_idle (relAll_spec hL hH hg)

end calls

theorem guardSession_spec (C : Ctx) (ses : Session) (u : UserSt) (hok : SesOK ro C ses)
    (hg : At Held.empty 0 g) :
    wp (HoldSpec n ro) (guardSession C (C.shape ses.coll) ses u) (Ended 0) E g := by
  unfold guardSession
  split
  · exact tryCall_spec hok.isLock hok.plus hg (guardPhase_spec C ses _ hok) (callEnd_spec ·)
      fun hg' => wp_idle (callEnd_spec hg')
  · exact blockingCall_spec hok.isLock hok.plus hg (guardPhase_spec C ses _ hok)
      fun hg' => wp_idle (callEnd_spec hg')

/-- the end of a scoped call: the key (if it was passed by value), the two marks -/
theorem scopedEnd_spec (k : KeyStyle) {out : Nat} {u : UserSt} (hg : At Held.empty d g)
    (ho : mkOutOk ≤ out := by decide) :
    wp (HoldSpec n ro)
      (dropKeyIf k (op (.mark mkEndCall) fun _ => op (.mark mkKeyBack) fun _ => done (out, u)))
      (Ended (d - 1)) E g := by
  unfold dropKeyIf
  split
  · exact wp_idle (callEnd_spec hg ho)
  · exact callEnd_spec hg ho

theorem scopedHeld_spec (C : Ctx) (ses : Session) (u' : UserSt) (hok : SesOK ro C ses)
    (hg : At (Held.empty.plus (holdsOf (C.shape ses.coll) ses.mode)) d g) :
    wp (HoldSpec n ro) (scopedHeld C (C.shape ses.coll) ses u') (Ended (d - 1)) E g := by
  have hunw : ∀ (_ : Unit) g', At Held.empty d g' →
      wp (HoldSpec n ro) (scopedUnwound ses u') (Ended (d - 1)) E g' :=
    fun _ _ hg' => scopedEnd_spec _ hg'
  unfold scopedHeld
  refine (readPoison_spec hg).bind fun poisoned _ hg1 => wp_idle ?_
  rw [wp_bindX, wp_handle]
  -- the closure keeps the holds however it ends; then they are released, by the handler if it unwound
  refine ((bodySteps_spec C hg1 (Held.covers_plus _ _) hok.body).bind (Q := fun _ => At _ d)
      fun _ _ hg2 => ?_).mono
    (fun _ _ hg2 => (relAll_spec hok.isLock hok.plus hg2).bindX hunw
      fun _ _ hg3 => scopedEnd_spec _ hg3 (le_ite (by decide) (by decide)))
    fun _ _ hg2 => (unwindHandler_spec hok.isLock hok.plus hg2).mono hunw hunw
  split
  -- a user panic inside the closure
  · exact wp_idle hg2
  · exact hg2

theorem scopedSession_spec (C : Ctx) (ses : Session) (u : UserSt) (hok : SesOK ro C ses)
    (hg : At Held.empty 0 g) :
    wp (HoldSpec n ro) (scopedSession C (C.shape ses.coll) ses u) (Ended 0) E g := by
  unfold scopedSession scopedSessionWith
  split
  · exact tryCall_spec hok.isLock hok.plus hg (scopedHeld_spec C ses _ hok) (callEnd_spec ·)
      (scopedEnd_spec _ ·)
  · exact blockingCall_spec hok.isLock hok.plus hg (scopedHeld_spec C ses _ hok) (scopedEnd_spec _ ·)

theorem session_spec (C : Ctx) (ses : Session) (u : UserSt) (hok : SesOK ro C ses)
    (hg : At Held.empty 0 g) : wp (HoldSpec n ro) (session C ses u) (Ended 0) E g :=
  session_cases (M := fun p => wp (HoldSpec n ro) p (Ended 0) E g) C ses u
    (fun _ => ⟨(by decide : mkOutOk ≤ mkOutNoKey), hg⟩) (fun _ => guardSession_spec C ses u hok hg)
    fun _ => scopedSession_spec C ses u hok hg

/-- Every statement of a well-typed client, from a state in which the thread holds nothing,
ends (it never unwinds: the client catches panics per statement) in a state in which the
thread holds nothing — for every answer sequence with at most `n` panicking answers. -/
theorem stmt_spec (C : Ctx) (st : Stmt) (u : UserSt) (hok : StmtOK ro C st) (hg : At Held.empty 0 g) :
    wp (HoldSpec n ro) (stmt C st u) (fun _ => At Held.empty 0) E g := by
  cases st with
  | ses ses =>
    exact (session_spec C ses u hok hg).bind fun r _ hr =>
      wp_idle hr.empty (Nat.le_trans (by decide) hr.out)
  | get => exact wp_probe (wp_idle hg) (wp_idle hg)
  | dropKey | forgetKey =>
    simp only [stmt]
    split
    · exact wp_idle hg
    · exact wp_idle (wp_idle hg)
  | dbg c bomb => exact debugCall_spec hg (wp_idle ·) (wp_idle ·)
  | isPoisoned c =>
    simp only [stmt]
    split
    · exact wp_probe (wp_idle hg) (wp_idle hg)
    · exact wp_idle hg
  | clearPoison c =>
    simp only [stmt]
    split
    · exact wp_idle (wp_idle hg)
    · exact wp_idle hg
  | tryNew kind s => exact wp_idle hg (le_ite (by decide) (by decide))

theorem program_spec (C : Ctx) (prog : List Stmt) (u : UserSt) (hok : ∀ st ∈ prog, StmtOK ro C st)
    (hg : At Held.empty 0 g) :
    wp (HoldSpec n ro) (program C prog u) (fun _ => At Held.empty 0) E g := by
  induction prog generalizing u g with
  | nil => exact hg
  | cons st prog ih =>
    obtain ⟨hst, hok⟩ := List.forall_mem_cons.1 hok
    exact (stmt_spec C st u hst hg).bind fun u' _ hg' => ih u' hok hg'

end

/-- key drop, then the API boundary: nothing is held when the key is handed back -/
theorem finish_spec (out : Nat) (u : UserSt) (dropKey : Bool) (g : HG)
    (Q : Nat × UserSt → HG → Prop) (E : Unit → HG → Prop)
    (hh : g.held = Held.empty) (hQ : Q (out, u) g) :
    wp (HoldSpec n ro)
      (if dropKey then op .keyDrop fun _ => op (.mark mkKeyBack) fun _ => done (out, u)
       else op (.mark mkKeyBack) fun _ => done (out, u)) Q E g := by
  have hback : wp (HoldSpec n ro) (op (.mark mkKeyBack) fun _ => done (out, u)) Q E g :=
    wp_mark_upd (fun _ => hh) hQ
  split
  · exact wp_idle hback
  · exact hback

theorem debugFmtL_spec (b : Option LockId) : ∀ (ss : List Shape) (g : HG) (Q : Unit → HG → Prop) (E : Unit → HG → Prop),
    (∀ g' : HG, g'.held = g.held → g'.depth = g.depth → Q () g') →
    (∀ g' : HG, g'.held = g.held → g'.depth = g.depth → E () g') →
    wp (HoldSpec n ro) (debugFmtL b ss) Q E g :=
  fun ss _ _ _ hQ hE => (debugFmt_spec b (.seq ss) ⟨rfl, rfl⟩).mono (fun _ g' hg' => hQ g' hg'.held hg'.depth)
    fun _ g' hg' => hE g' hg'.held hg'.depth

end HLV
