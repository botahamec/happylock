/-
  HLV.Logic.OpsIn — "this program only issues operations of kind P", for every algorithm and
  every shape; and the frame rule it gives: a specification that does not care about the
  operations in P is not disturbed by such a program.

  The second half is what the specifications share when they walk the API's programs: which
  operations each component issues (for any class `P`), `guardDropG` (the two ways of dropping a
  guard as one function), the shape of `Debug` (`debugFmt_induct`), the cases of a session
  (`session_cases`), the head of a guard or scoped session for any property of programs that passes
  through boundary marks and lock operations (`PassesHead`).
-/
import HLV.Logic.Shapes
namespace HLV
open Prog

variable {ε ε₁ ε₂ α β : Type}

/-- every operation the program can ever issue satisfies `P` -/
inductive OpsIn (P : Op → Prop) : Prog ε α → Prop
  | done (a : α) : OpsIn P (.done a)
  | unwind (e : ε) : OpsIn P (.unwind e)
  | spin : OpsIn P .spin
  | abort : OpsIn P .abort
  | op (o : Op) (k : Resp → Prog ε α) : P o → (∀ r, OpsIn P (k r)) → OpsIn P (.op o k)

theorem OpsIn.bindX {P : Op → Prop} {p : Prog ε₁ β} {h : ε₁ → Prog ε₂ α} {k : β → Prog ε₂ α}
    (hp : OpsIn P p) (hh : ∀ e, OpsIn P (h e)) (hk : ∀ b, OpsIn P (k b)) : OpsIn P (p.bindX h k) := by
  induction hp with
  | done a => exact hk a
  | unwind e => exact hh e
  | spin => exact .spin
  | abort => exact .abort
  | op o c ho _ ih => exact .op o _ ho ih

theorem OpsIn.bind {P : Op → Prop} {p : Prog ε β} {k : β → Prog ε α}
    (hp : OpsIn P p) (hk : ∀ b, OpsIn P (k b)) : OpsIn P (p.bind k) :=
  hp.bindX (fun e => .unwind e) hk

theorem OpsIn.call {P : Op → Prop} {cells : ε} {callee : Prog ε₁ β} {k : β → Prog ε α}
    (hp : OpsIn P callee) (hk : ∀ b, OpsIn P (k b)) : OpsIn P (Prog.call cells callee k) :=
  hp.bindX (fun _ => .unwind cells) hk

theorem OpsIn.handle {P : Op → Prop} {outer : ε₂} {body : Prog ε₁ α} {c : ε₁ → Prog Unit Unit}
    (hb : OpsIn P body) (hc : ∀ e, OpsIn P (c e)) : OpsIn P (Prog.handle outer body c) :=
  hb.bindX (fun e => (hc e).bindX (fun _ => .unwind outer) (fun _ => .unwind outer)) (fun a => .done a)

theorem OpsIn.ite {P : Op → Prop} {c : Prop} [Decidable c] {p q : Prog ε α} (hp : OpsIn P p) (hq : OpsIn P q) :
    OpsIn P (if c then p else q) := by
  split
  · exact hp
  · exact hq

theorem OpsIn.mono {P Q : Op → Prop} {p : Prog ε α} (h : ∀ o, P o → Q o) (hp : OpsIn P p) : OpsIn Q p := by
  induction hp with
  | done a => exact .done a
  | unwind e => exact .unwind e
  | spin => exact .spin
  | abort => exact .abort
  | op o c ho _ ih => exact .op o _ (h o ho) ih

/-- `S` has no obligation for, and its ghost is not changed by, the operations in `P` -/
structure Spec.Ignores {G : Type} (S : Spec G) (P : Op → Prop) : Prop where
  pre : ∀ g o, P o → S.pre g o
  upd : ∀ g o r, P o → S.upd g o r = g

section ignores
variable {G : Type} {S : Spec G} {P : Op → Prop} {Q : α → G → Prop} {E : ε → G → Prop} {g : G}

theorem Spec.Ignores.op (hS : S.Ignores P) {o : Op} {c : Resp → Prog ε α} (ho : P o)
    (h : ∀ r, wp S (c r) Q E g) : wp S (.op o c) Q E g :=
  ⟨hS.pre g o ho, fun r _ => (hS.upd g o r ho).symm ▸ h r⟩

/-- **Frame rule.** A program of ignored operations ends with the ghost it started with. -/
theorem Spec.Ignores.frame (hS : S.Ignores P) {p : Prog ε α} (hp : OpsIn P p)
    (hQ : ∀ a, Q a g) (hE : ∀ e, E e g) : wp S p Q E g := by
  induction hp with
  | done a => exact hQ a
  | unwind e => exact hE e
  | spin => trivial
  | abort => trivial
  | op o c ho _ ih => exact hS.op ho ih

theorem Spec.Ignores.bindX (hS : S.Ignores P) {p : Prog ε₁ β} {h : ε₁ → Prog ε α}
    {k : β → Prog ε α} (hp : OpsIn P p) (hh : ∀ e, wp S (h e) Q E g) (hk : ∀ b, wp S (k b) Q E g) :
    wp S (p.bindX h k) Q E g :=
  (wp_bindX ..).2 (hS.frame hp hk hh)

theorem Spec.Ignores.bind (hS : S.Ignores P) {p : Prog ε β} {k : β → Prog ε α} (hp : OpsIn P p)
    (hE : ∀ e, E e g) (hk : ∀ b, wp S (k b) Q E g) : wp S (p.bind k) Q E g :=
  hS.bindX hp hE hk

end ignores

def isLockOp : Op → Prop
  | .acq _ _ _ => True
  | .rel _ _ => True
  | .kill _ => True
  | _ => False

structure LockOnly (L : RawLockM) : Prop where
  acq : ∀ m, OpsIn isLockOp (L.acq m)
  try_ : ∀ m, OpsIn isLockOp (L.try_ m)
  rel : ∀ m, OpsIn isLockOp (L.rel m)
  kill : OpsIn isLockOp L.kill

theorem lockOnly_rwLeaf (x : LockId) : LockOnly (rwLeaf x) where
  acq _ := .op _ _ trivial fun | .ok => .done _ | .no => .unwind _ | .panic => .unwind _
  try_ _ := .op _ _ trivial fun | .ok => .done _ | .no => .done _ | .panic => .unwind _
  rel _ := .op _ _ trivial fun | .ok => .done _ | .no => .done _ | .panic => .unwind _
  kill := .op _ _ trivial fun _ => .done _

theorem lockOnly_mutexLeaf (x : LockId) : LockOnly (mutexLeaf x) where
  acq _ := (lockOnly_rwLeaf x).acq .excl
  try_ _ := (lockOnly_rwLeaf x).try_ .excl
  rel _ := (lockOnly_rwLeaf x).rel .excl
  kill := (lockOnly_rwLeaf x).kill

def AllLockOnly (ls : List RawLockM) : Prop := ∀ l ∈ ls, LockOnly l

theorem AllLockOnly.tail {l} {ls : List RawLockM} (h : AllLockOnly (l :: ls)) : AllLockOnly ls :=
  fun q hq => h q (List.mem_cons_of_mem _ hq)
theorem AllLockOnly.head {l} {ls : List RawLockM} (h : AllLockOnly (l :: ls)) : LockOnly l :=
  h l List.mem_cons_self
theorem AllLockOnly.take {ls : List RawLockM} (h : AllLockOnly ls) (k : Nat) : AllLockOnly (ls.take k) :=
  fun q hq => h q (List.mem_of_mem_take hq)
theorem lockOnly_default : LockOnly default :=
  ⟨fun _ => .done _, fun _ => .done _, fun _ => .done _, .done _⟩

theorem AllLockOnly.getD {ls : List RawLockM} (h : AllLockOnly ls) (i : Nat) : LockOnly (ls.getD i default) := by
  rw [List.getD_eq_getElem?_getD]
  cases hi : ls[i]? with
  | none => exact lockOnly_default
  | some l => exact h l (List.mem_of_getElem? hi)

theorem unlockAllFrom_lockOnly (m : Mode) (ls : List RawLockM) (h : AllLockOnly ls) (p : Bool) :
    OpsIn isLockOp (unlockAllFrom m ls p) := by
  induction ls generalizing p with
  | nil => exact .ite (.unwind _) (.done _)
  | cons l ls ih => exact (h.head.rel m).bindX (fun _ => ih h.tail true) (fun _ => ih h.tail p)

theorem recover_lockOnly (m : Mode) (ls : List RawLockM) (h : AllLockOnly ls) :
    OpsIn isLockOp (recover m ls) := unlockAllFrom_lockOnly m ls h false

theorem orderedAcqBody_lockOnly (m : Mode) (ls : List RawLockM) (h : AllLockOnly ls) (k : Nat) :
    OpsIn isLockOp (orderedAcqBody m ls k) := by
  induction ls generalizing k with
  | nil => exact .done _
  | cons l ls ih => exact (h.head.acq m).call (fun _ => ih h.tail _)

theorem orderedTryBody_lockOnly (m : Mode) (all ls : List RawLockM) (ha : AllLockOnly all)
    (h : AllLockOnly ls) (i k : Nat) : OpsIn isLockOp (orderedTryBody m all ls i k) := by
  induction ls generalizing i k with
  | nil => exact .done _
  | cons l ls ih =>
    exact (h.head.try_ m).call fun _ =>
      .ite (ih h.tail _ _) ((unlockAllFrom_lockOnly m _ (ha.take i) false).call fun _ => .done _)

theorem retryInner_lockOnly (m : Mode) (all ls : List RawLockM) (ha : AllLockOnly all)
    (h : AllLockOnly ls) (i : Nat) (c : RetryCells) : OpsIn isLockOp (retryInner m all ls i c) := by
  induction ls generalizing i c with
  | nil => exact .done _
  | cons l ls ih =>
    refine .ite (ih h.tail _ _) ((h.head.try_ m).call fun _ => .ite (ih h.tail _ _) ?_)
    -- refused: the round is rolled back
    exact (recover_lockOnly m _ (ha.take i)).call fun _ =>
      .ite (((ha.getD _).rel m).call fun _ => .done _) (.done _)

theorem retryOuter_lockOnly (m : Mode) (all : List RawLockM) (ha : AllLockOnly all) (fuel : Nat)
    (c : RetryCells) : OpsIn isLockOp (retryOuter m all fuel c) := by
  induction fuel generalizing c with
  | zero => exact .spin
  | succ fuel ih =>
    exact ((ha.getD _).acq m).call fun _ => (retryInner_lockOnly m all all ha ha 0 _).bind fun
      | none => .done _
      | some _ => ih _

theorem killAll_lockOnly (ls : List RawLockM) (h : AllLockOnly ls) : OpsIn isLockOp (killAll ls) := by
  induction ls with
  | nil => exact .done _
  | cons l ls ih => exact h.head.kill.bind (fun _ => ih h.tail)

theorem lockOnly_ordered (ls : List RawLockM) (h : AllLockOnly ls) : LockOnly (orderedLock ls) where
  acq m := (orderedAcqBody_lockOnly m ls h 0).handle (fun k => recover_lockOnly m _ (h.take k))
  try_ m := (orderedTryBody_lockOnly m ls ls h h 0 0).handle (fun k => recover_lockOnly m _ (h.take k))
  rel m := unlockAllFrom_lockOnly m ls h false
  kill := killAll_lockOnly ls h

theorem lockOnly_retry (fuel : Nat) (ls : List RawLockM) (h : AllLockOnly ls) :
    LockOnly (retryLock fuel ls) where
  acq m := by
    refine .ite (.done _) ((retryOuter_lockOnly m ls h fuel _).handle fun c => recover_lockOnly m _ ?_)
    -- what the handler believes is held: a prefix, with or without the member locked by the blocking call
    split
    · exact List.forall_mem_append.2 ⟨h.take _, List.forall_mem_singleton.2 (h.getD _)⟩
    · exact h.take _
  try_ m := retryLock_try fuel m ls ▸ (lockOnly_ordered ls h).try_ m
  rel m := unlockAllFrom_lockOnly m ls h false
  kill := killAll_lockOnly ls h

/-! ### which operations the components of the API issue

Stated for an arbitrary class `P` that contains the operations in question, so that each
specification's frame rule gets its instance by checking `P` on those few operations. -/

section components
variable {P : Op → Prop}

theorem readPoison_opsIn (h : ∀ p, P (.poisonGet p)) : ∀ (ps : List PoisonId) (b : Bool),
    OpsIn P (readPoison ps b)
  | [], _ => .done _
  | p :: ps, _ => .op _ _ (h p) fun _ => readPoison_opsIn h ps _

/-- `guardDrop` and `guardDropO` in one definition: `always` says that every `PoisonRef` sets its
flag, also when the thread is not unwinding (`guardDropO`, the outer-unwinding context). Facts
about dropping a guard are proved of this and carried over by `guardDrop_eq`, `guardDropO_eq`,
`guardDropN_eq`. -/
def guardDropG (always : Bool) (m : Mode) : List GuardItem → Bool → Prog Unit Bool
  | [], pk => .done pk
  | .poisonRef p :: gs, pk =>
    if always || pk then .op (.poisonSet p) fun _ => guardDropG always m gs pk
    else guardDropG always m gs pk
  | .leaf x isMutex :: gs, pk =>
    .op (.rel (if isMutex then .excl else m) x) fun r =>
      match r with
      | .panic => if pk then .abort else guardDropG always m gs true
      | _ => guardDropG always m gs pk

theorem guardDrop_eq (m : Mode) : ∀ (items : List GuardItem) (pk : Bool),
    guardDrop m items pk = guardDropG false m items pk
  | [], _ => rfl
  | .poisonRef _ :: gs, _ => by
    rw [guardDrop, guardDropG, guardDrop_eq m gs, Bool.false_or]
  | .leaf _ _ :: gs, _ => by
    rw [guardDrop, guardDropG, guardDrop_eq m gs, guardDrop_eq m gs]
    -- the `match` of `guardDrop` and that of `guardDropG` are two auxiliary definitions, equal by unfolding
    rfl

theorem guardDropO_eq (m : Mode) : ∀ (items : List GuardItem) (pk : Bool),
    guardDropO m items pk = guardDropG true m items pk
  | [], _ => rfl
  | .poisonRef _ :: gs, _ => by
    rw [guardDropO, guardDropG, guardDropO_eq m gs, Bool.true_or, if_pos rfl]
  | .leaf _ _ :: gs, _ => by
    rw [guardDropO, guardDropG, guardDropO_eq m gs, guardDropO_eq m gs]
    rfl

theorem guardDropN_eq (outer : Bool) (m : Mode) (items : List GuardItem) :
    guardDropN outer m items = guardDropG outer m items false := by
  cases outer
  · exact guardDrop_eq m items false
  · exact guardDropO_eq m items false

theorem guardDropG_opsIn (hrel : ∀ m x, P (.rel m x)) (hset : ∀ p, P (.poisonSet p)) (always : Bool)
    (m : Mode) : ∀ (items : List GuardItem) (pk : Bool), OpsIn P (guardDropG always m items pk)
  | [], _ => .done _
  | .poisonRef p :: gs, _ =>
    .ite (.op _ _ (hset p) fun _ => guardDropG_opsIn hrel hset always m gs _)
      (guardDropG_opsIn hrel hset always m gs _)
  | .leaf x _ :: gs, _ =>
    .op _ _ (hrel _ x) fun
      | .panic => .ite .abort (guardDropG_opsIn hrel hset always m gs _)
      | .ok | .no => guardDropG_opsIn hrel hset always m gs _

theorem guardDrop_opsIn (hrel : ∀ m x, P (.rel m x)) (hset : ∀ p, P (.poisonSet p)) (m : Mode)
    (items : List GuardItem) (pk : Bool) : OpsIn P (guardDrop m items pk) :=
  guardDrop_eq m items pk ▸ guardDropG_opsIn hrel hset false m items pk

theorem guardDropN_opsIn (hrel : ∀ m x, P (.rel m x)) (hset : ∀ p, P (.poisonSet p)) (outer : Bool)
    (m : Mode) (items : List GuardItem) : OpsIn P (guardDropN outer m items) :=
  guardDropN_eq outer m items ▸ guardDropG_opsIn hrel hset outer m items false

/-- `Debug` of a leaf tries the lock, reads the datum and releases; a misbehaving payload is
marked as a user panic -/
theorem debugLeaf_opsIn (htry : ∀ m x, P (.acq m false x)) (hread : ∀ x, P (.access x none))
    (hrel : ∀ m x, P (.rel m x)) (hmark : P (.mark mkUserPanic)) (x : LockId) (m : Mode) (b : Nat) :
    OpsIn P (debugLeaf x m b) :=
  .op _ _ (htry m x) fun
    | .no => .done _
    | .panic => .unwind _
    | .ok => .op _ _ (hread x) fun _ => .ite
      (.op _ _ hmark fun _ => .op _ _ (hrel m x) fun
        | .panic => .abort
        | .ok | .no => .unwind _)
      (.op _ _ (hrel m x) fun
        | .panic => .unwind _
        | .ok | .no => .ite (.op _ _ hmark fun _ => .unwind _) (.done _))

/-- `Debug` of a shape formats its leaves one after the other (a boxed collection prints only a
pointer): what holds of a leaf's `Debug` and is kept by sequencing holds of every shape's. -/
theorem debugFmt_induct {M : Prog Unit Unit → Prop} (hleaf : ∀ x m k, M (debugLeaf x m k))
    (hnone : M (.done ())) (hseq : ∀ {p q}, M p → M q → M (p.bind fun _ => q))
    (b : Option LockId) (S : Shape) : M (debugFmt b S) := by
  induction S using Shape.rec (motive_2 := fun ss => M (debugFmtL b ss)) with
  | mutex x => exact hleaf x .excl _
  | rwlock x => exact hleaf x .shared _
  | boxed => exact hnone
  | nil => exact hnone
  | cons s ss ih ihs => exact hseq ih ihs
  -- the other wrappers and `seq` format what is inside
  | _ => assumption

theorem debugFmt_opsIn (htry : ∀ m x, P (.acq m false x)) (hread : ∀ x, P (.access x none))
    (hrel : ∀ m x, P (.rel m x)) (hmark : P (.mark mkUserPanic)) (b : Option LockId) (S : Shape) :
    OpsIn P (debugFmt b S) :=
  debugFmt_induct (debugLeaf_opsIn htry hread hrel hmark) (.done _) (fun hp hq => hp.bind fun _ => hq) b S

end components

theorem IsMember.lockOnly {ro : RankOpt} {q : RawLockM × FpFun} (h : IsMember ro q) : LockOnly q.1 := by
  induction h with
  | mutex x => exact lockOnly_mutexLeaf x
  | rwlock x => exact lockOnly_rwLeaf x
  | owned ms _ _ ih => exact lockOnly_ordered _ (List.forall_mem_map.2 ih)

theorem getPtrs_lockOnly (W : World) (S : Shape) : AllLockOnly ((getPtrs W S).map (·.lock)) := by
  rw [← ptrsM_locks]
  exact List.forall_mem_map.2 fun q hq => (getPtrs_isMember W S (ptrsOK_none W S) q hq).lockOnly

theorem getPtrsL_lockOnly (W : World) : ∀ ss : List Shape, AllLockOnly ((getPtrsL W ss).map (·.lock)) :=
  fun ss => getPtrs_lockOnly W (.seq ss)

theorem IsRaw.lockOnly {ro : RankOpt} {fuel : Nat} {L : RawLockM} {fp : FpFun} {b : Bool}
    (h : IsRaw ro fuel L fp b) : LockOnly L := by
  cases h with
  | member q hq => exact hq.lockOnly
  | retry ms hm => exact lockOnly_retry _ _ (List.forall_mem_map.2 fun q hq => (hm q hq).lockOnly)

/-- a plain container has no `RawLock` impl of its own: the model gives it the trait object that
does nothing -/
theorem toRaw_of_not_lockable (W : World) : ∀ S : Shape, lockable S ≠ true → toRaw W S = default
  | .seq _, _ => rfl
  | .poisonable _ s, h => toRaw_of_not_lockable W s h
  | .mutex _, h | .rwlock _, h | .boxed _, h | .refc _, h | .retry _, h | .owned _ _, h => absurd rfl h

/-- **Acquiring, trying and releasing any shape only ever issues lock operations** (no key,
poison, data or marker operation hides inside the algorithms). -/
theorem toRaw_lockOnly (W : World) (S : Shape) : LockOnly (toRaw W S) := by
  by_cases hl : lockable S = true
  · exact (toRaw_isRaw W S hl (shapeOK_none W S)).lockOnly
  · exact toRaw_of_not_lockable W S hl ▸ lockOnly_default

section
variable {G α : Type} {S : Spec G} {P : Op → Prop}

/-- one or two operations and a result: the API's calls end in such tails of key operations and marks -/
theorem OpsIn.op₁ {ε : Type} {o : Op} {a : α} (h : P o) : OpsIn P (.op o fun _ => .done a : Prog ε α) :=
  .op _ _ h fun _ => .done a

theorem OpsIn.op₂ {ε : Type} {o₁ o₂ : Op} {a : α} (h₁ : P o₁) (h₂ : P o₂) :
    OpsIn P (.op o₁ fun _ => .op o₂ fun _ => .done a : Prog ε α) :=
  .op _ _ h₁ fun _ => .op₁ h₂

theorem dropKeyIf_opsIn {k : KeyStyle} {cont : Prog Unit α} (hdrop : P .keyDrop) (h : OpsIn P cont) :
    OpsIn P (dropKeyIf k cont) := by
  cases k
  · exact .op _ _ hdrop fun _ => h
  · exact h

theorem scopedUnwound_opsIn (hdrop : P .keyDrop) (hend : P (.mark mkEndCall)) (hback : P (.mark mkKeyBack))
    (ses : Session) (u' : UserSt) : OpsIn P (scopedUnwound ses u') :=
  dropKeyIf_opsIn hdrop (.op₂ hend hback)

theorem Spec.Ignores.dropKeyIf {Q : α → G → Prop} {E : Unit → G → Prop} {g : G} (hS : S.Ignores P)
    (hk : P .keyDrop) {k : KeyStyle} {cont : Prog Unit α} (h : wp S cont Q E g) :
    wp S (dropKeyIf k cont) Q E g := by
  cases k
  · exact hS.op hk fun _ => h
  · exact h

/-- What walking the head of a session — the begin mark, the raw acquisition, the two marks after a refused
try — takes of a property `M` of programs: `M` passes through the boundary marks (they are below `mkBody`) and
through a prefix of lock operations. -/
structure PassesHead (M : Prog Unit (Nat × UserSt) → Prop) : Prop where
  mark : ∀ {k : Nat} {c : Resp → Prog Unit (Nat × UserSt)}, k < mkBody → (∀ r, M (c r)) → M (.op (.mark k) c)
  lock : ∀ {β : Type} {p : Prog Unit β} {h : Unit → Prog Unit (Nat × UserSt)} {k : β → Prog Unit (Nat × UserSt)},
    OpsIn isLockOp p → (∀ e, M (h e)) → (∀ b, M (k b)) → M (p.bindX h k)

/-- a specification that ignores lock operations and the boundary marks -/
theorem Spec.Ignores.passesHead {Q : Nat × UserSt → G → Prop} {E : Unit → G → Prop} {g : G} (hS : S.Ignores P)
    (hlock : ∀ o, isLockOp o → P o) (hmark : ∀ k, k < mkBody → P (.mark k)) : PassesHead (wp S · Q E g) where
  mark hk h := hS.op (hmark _ hk) h
  lock hp hh hk := hS.bindX (hp.mono hlock) hh hk

section
variable {M : Prog Unit (Nat × UserSt) → Prop} (hM : PassesHead M) {C : Ctx} {Sh : Shape} {ses : Session} {u : UserSt}
include hM

/-- the head of a `try_*` call: decided by what follows an unwinding, a success and a refusal -/
theorem PassesHead.tryCall {L : RawLockM} (hL : LockOnly L) {m : Mode} {unw held : Prog Unit (Nat × UserSt)}
    {no : Nat × UserSt} (hunw : M unw) (hheld : M held) (hno : M (.done no)) :
    M (op (.mark mkBeginTry) fun _ => bindX (L.try_ m) (fun _ => unw) fun b =>
      if b then held else op (.mark mkEndCall) fun _ => op (.mark mkKeyBack) fun _ => done no) := by
  refine hM.mark (by decide) fun _ => hM.lock (hL.try_ m) (fun _ => hunw) fun b => ?_
  cases b
  · exact hM.mark (by decide) fun _ => hM.mark (by decide) fun _ => hno
  · exact hheld

/-- the head of a blocking call: it cannot be refused -/
theorem PassesHead.blockingCall {L : RawLockM} (hL : LockOnly L) {m : Mode} {unw held : Prog Unit (Nat × UserSt)}
    (hunw : M unw) (hheld : M held) :
    M (op (.mark mkBeginBlocking) fun _ => bindX (L.acq m) (fun _ => unw) fun _ => held) :=
  hM.mark (by decide) fun _ => hM.lock (hL.acq m) (fun _ => hunw) fun _ => hheld

/-- a scoped session is decided by its three continuations -/
theorem scopedSessionWith_cases {u' : UserSt} (hunw : M (scopedUnwound ses u')) (hheld : M (scopedHeld C Sh ses u'))
    (hno : M (.done (mkOutWouldBlock, u))) : M (scopedSessionWith C Sh ses u u') := by
  unfold scopedSessionWith
  split
  · exact hM.tryCall (toRaw_lockOnly C.W Sh) hunw hheld hno
  · exact hM.blockingCall (toRaw_lockOnly C.W Sh) hunw hheld

/-- and so is a guard session; if the acquisition itself unwinds the key, a by-value parameter, is dropped -/
theorem guardSession_cases
    (hunw : M (op .keyDrop fun _ => op (.mark mkEndCall) fun _ => op (.mark mkKeyBack) fun _ =>
      done (mkOutPanic, { u with keys := u.keys - 1 })))
    (hheld : M (guardPhase C Sh ses { u with keys := u.keys - 1 }))
    (hno : M (.done (mkOutWouldBlock, u))) : M (guardSession C Sh ses u) := by
  unfold guardSession
  split
  · exact hM.tryCall (toRaw_lockOnly C.W Sh) hunw hheld hno
  · exact hM.blockingCall (toRaw_lockOnly C.W Sh) hunw hheld

end

theorem session_cases {M : Prog Unit (Nat × UserSt) → Prop} (C : Ctx) (ses : Session) (u : UserSt)
    (hnokey : u.keys = 0 → M (.done (mkOutNoKey, u)))
    (hguard : u.keys ≠ 0 → M (guardSession C (C.shape ses.coll) ses u))
    (hscoped : u.keys ≠ 0 → M (scopedSession C (C.shape ses.coll) ses u)) : M (session C ses u) := by
  unfold session
  split
  · next hk => exact hnokey hk
  · next hk =>
    split
    · exact hguard hk
    · exact hguard hk
    · exact hscoped hk
    · exact hscoped hk

/-- either of two numbers other than `n` (closed numbers: by evaluation) -/
theorem ite_ne {c : Prop} [Decidable c] {a b n : Nat} (ha : a ≠ n := by decide) (hb : b ≠ n := by decide) :
    (if c then a else b) ≠ n := by
  split <;> assumption

theorem le_ite {a x y : Nat} {c : Prop} [Decidable c] (hx : a ≤ x) (hy : a ≤ y) :
    a ≤ if c then x else y := by
  split
  · exact hx
  · exact hy

end

end HLV
