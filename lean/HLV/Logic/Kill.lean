/-
  HLV.Logic.Kill — theorems about the kill-flag protocol at statement granularity
  (`Model/Kill.lean`), for any number of threads and every schedule.

  Every enabled step is a `Move`: thread `t` goes from one counter to another and has one effect
  (`Eff`) on what the threads share. The flag theorems are read off the table of moves. The invariant
  compares, thread by thread, what the counter says the thread owns of the raw lock (`Pc.owns`) with
  the raw lock's own record (`St.has`); a move keeps it because its effect is the one that the change
  of counter announces (`Eff.fits`).
-/
import HLV.Model.Kill
namespace HLV.Kill

@[simp] theorem setPc_killed (s : St) (t : Nat) (p : Pc) : (s.setPc t p).killed = s.killed := rfl
@[simp] theorem setPc_writer (s : St) (t : Nat) (p : Pc) : (s.setPc t p).writer = s.writer := rfl
@[simp] theorem setPc_readers (s : St) (t : Nat) (p : Pc) : (s.setPc t p).readers = s.readers := rfl

@[simp] theorem take_pcs (s : St) (t : Nat) (m : Md) : (s.take t m).pcs = s.pcs := by cases m <;> rfl
@[simp] theorem give_pcs (s : St) (t : Nat) (m : Md) : (s.give t m).pcs = s.pcs := by cases m <;> rfl
@[simp] theorem take_killed (s : St) (t : Nat) (m : Md) : (s.take t m).killed = s.killed := by cases m <;> rfl
@[simp] theorem give_killed (s : St) (t : Nat) (m : Md) : (s.give t m).killed = s.killed := by cases m <;> rfl

theorem lt_of_pc_ne_unwound {s : St} {t : Nat} (h : s.pc t ≠ .unwound) : t < s.pcs.length :=
  Nat.lt_of_not_le fun hl => h (by rw [St.pc, List.getD_eq_getElem?_getD, List.getElem?_eq_none hl]; rfl)

/-- a live thread is where `setPc` puts it, and every other thread is where it was (a thread beyond `pcs` counts
as unwound, and `setPc` does nothing for it) -/
theorem pc_setPc {s : St} {t : Nat} (h : s.pc t ≠ .unwound) (p : Pc) (u : Nat) :
    (s.setPc t p).pc u = if t = u then p else s.pc u := by
  unfold St.pc St.setPc
  rw [List.getD_eq_getElem?_getD, List.getD_eq_getElem?_getD, List.getElem?_set, if_pos (lt_of_pc_ne_unwound h)]
  split <;> rfl

/-- what a step does to the state the threads share: the raw lock and the flag -/
inductive Eff
  | keep
  | take (m : Md)
  | give (m : Md)
  | kill

def St.eff (s : St) (t : Nat) : Eff → St
  | .keep => s
  | .take m => s.take t m
  | .give m => s.give t m
  | .kill => { s with killed := true }

theorem eff_pc (s : St) (t : Nat) (u : Nat) : ∀ e, (s.eff t e).pc u = s.pc u
  | .keep | .kill => rfl
  | .take m => congrArg (·.getD u .unwound) (take_pcs s t m)
  | .give m => congrArg (·.getD u .unwound) (give_pcs s t m)

theorem pc_move {s : St} {t : Nat} (h : s.pc t ≠ .unwound) (e : Eff) (q : Pc) (u : Nat) :
    ((s.eff t e).setPc t q).pc u = if t = u then q else s.pc u := by
  rw [pc_setPc (by rwa [eff_pc]), eff_pc]

/-- the enabled steps of a thread: from one counter, with an effect, to the next counter -/
inductive Move (rt : Bool) (s : St) : Pc → Eff → Pc → Prop
  | refuse : s.killed = true → Move rt s .idle .keep .refused
  | test {tr m} : s.killed = false → Move rt s .idle .keep (.tested tr m)
  | rawFault {tr m} : Move rt s (.tested tr m) .keep .recover
  | rawLocked {tr m} : s.free m = true → rt = true → Move rt s (.tested tr m) (.take m) (.locked tr m)
  | rawGranted {tr m} : s.free m = true → rt = false → Move rt s (.tested tr m) (.take m) (.holding m)
  | rawBusy {m} : s.free m = false → Move rt s (.tested true m) .keep .busy
  | retestRefused {tr m} : s.killed = true → Move rt s (.locked tr m) (.give m) .refused
  | retestGranted {tr m} : s.killed = false → Move rt s (.locked tr m) .keep (.holding m)
  | releaseOk {m} : Move rt s (.holding m) (.give m) .idle
  | releaseFault {m} : Move rt s (.holding m) (.give m) .recover
  | store : Move rt s .recover .kill .unwound
  | againRefused : Move rt s .refused .keep .idle
  | againBusy : Move rt s .busy .keep .idle

theorem step_spec {rt : Bool} {s s' : St} {t : Nat} {a : Act} (h : step rt s t a = some s') :
    ∃ e q, Move rt s (s.pc t) e q ∧ s' = (s.eff t e).setPc t q := by
  revert h
  -- `injection` closes the branches without a step and says what `s'` is in the others: what is
  -- left are the nine clauses of `step` that move, in its order, each answered by its `Move`
  fun_cases step rt s t a <;> intro h <;> injection h <;> subst s' <;> rw [‹s.pc t = _›]
  · cases hk : s.killed
    · exact ⟨_, _, .test hk, rfl⟩
    · exact ⟨_, _, .refuse hk, rfl⟩
  · exact ⟨_, _, .rawFault, rfl⟩
  · next hf =>
    cases rt
    · exact ⟨_, _, .rawGranted hf rfl, rfl⟩
    · exact ⟨_, _, .rawLocked hf rfl, rfl⟩
  · next hf _ => exact ⟨_, _, .rawBusy (eq_false_of_ne_true hf), rfl⟩
  · cases hk : s.killed
    · exact ⟨_, _, .retestGranted hk, rfl⟩
    · exact ⟨_, _, .retestRefused hk, rfl⟩
  · next fault _ _ =>
    cases fault
    · exact ⟨_, _, .releaseOk, rfl⟩
    · exact ⟨_, _, .releaseFault, rfl⟩
  · exact ⟨_, _, .store, rfl⟩
  · exact ⟨_, _, .againRefused, rfl⟩
  · exact ⟨_, _, .againBusy, rfl⟩

theorem Move.live {rt : Bool} {s : St} {p q : Pc} {e : Eff} (h : Move rt s p e q) : p ≠ .unwound :=
  fun hp => nomatch hp ▸ h

theorem run_induct {rt : Bool} {P : St → Prop} (hP : ∀ {s t a s'}, step rt s t a = some s' → P s → P s')
    (sched : List (Nat × Act)) (s : St) (h : P s) : P (run rt s sched) := by
  fun_induction run rt s sched with
  | case1 => exact h
  | case2 s t a rest s' hs ih => exact ih (hP hs h)
  | case3 s t a rest hs ih => exact ih h

theorem run_append (rt : Bool) : ∀ (p q : List (Nat × Act)) (s : St), run rt s (p ++ q) = run rt (run rt s p) q
  | [], _, _ => rfl
  | (t, a) :: rest, q, s => by
    simp only [List.cons_append, run]
    cases step rt s t a <;> exact run_append rt rest q _

theorem eff_killed_mono {s : St} (t : Nat) (hk : s.killed = true) : ∀ e, (s.eff t e).killed = true
  | .keep => hk
  | .take m => (take_killed s t m).trans hk
  | .give m => (give_killed s t m).trans hk
  | .kill => rfl

theorem step_killed_mono {rt : Bool} {s s' : St} {t : Nat} {a : Act} (h : step rt s t a = some s')
    (hk : s.killed = true) : s'.killed = true := by
  obtain ⟨e, q, -, rfl⟩ := step_spec h
  exact eff_killed_mono t hk e

theorem run_killed_mono (rt : Bool) : ∀ (sched : List (Nat × Act)) (s : St), s.killed = true →
    (run rt s sched).killed = true :=
  run_induct step_killed_mono

theorem step_pc_other {rt : Bool} {s s' : St} {t u : Nat} {a : Act} (h : step rt s t a = some s') (hu : t ≠ u) :
    s'.pc u = s.pc u := by
  obtain ⟨e, q, hm, rfl⟩ := step_spec h
  rw [pc_move hm.live, if_neg hu]

/-- with the second test, the only move into `holding` from elsewhere is the one that has just seen the flag down -/
theorem Move.no_grant {s : St} {p q : Pc} {e : Eff} (h : Move true s p e q) (hk : s.killed = true) :
    (!p.isHolding && q.isHolding) = false := by
  cases h with
  | retestGranted hd => cases hk.symm.trans hd
  | rawGranted _ hrt => cases hrt
  | _ => rfl

/-- **With the second test, no step taken while the flag is up hands out a guard.** -/
theorem no_grant_when_killed {s s' : St} {t : Nat} {a : Act} (hk : s.killed = true) (h : step true s t a = some s')
    (u : Nat) : grants s s' u = false := by
  obtain ⟨e, q, hm, rfl⟩ := step_spec h
  unfold grants
  rw [pc_move hm.live]
  split
  · next hu => rw [← hu]; exact hm.no_grant hk
  · exact Bool.not_and_self _

/-- **Once the flag is up, no schedule ever hands out a guard again**: whatever has run (`p`),
if the flag is up afterwards, no further step of any thread grants a guard to anybody. -/
theorem no_guard_once_flag_is_up (s0 : St) (p : List (Nat × Act)) (t u : Nat) (a : Act) (s' : St)
    (hk : (run true s0 p).killed = true) (h : step true (run true s0 p) t a = some s') :
    grants (run true s0 p) s' u = false :=
  no_grant_when_killed hk h u

/-- the mode in which a thread at this counter owns the raw lock: it has a guard, or is between the raw acquire
and the second test -/
def Pc.owns : Pc → Option Md
  | .holding m | .locked _ m => some m
  | _ => none

/-- the raw lock's own record: thread `u` has it in mode `m` -/
def St.has (s : St) (u : Nat) : Md → Prop
  | .x => s.writer = some u
  | .s => u ∈ s.readers

theorem setPc_has (s : St) (t : Nat) (q : Pc) (u : Nat) (m : Md) : (s.setPc t q).has u m ↔ s.has u m :=
  .rfl

theorem free_x {s : St} : s.free .x = true ↔ s.writer = none ∧ s.readers = [] := by
  simp [St.free]

theorem free_s {s : St} : s.free .s = true ↔ s.writer = none :=
  Option.isNone_iff_eq_none

theorem has_take {s : St} {t u : Nat} {m m' : Md} (hf : s.free m = true) :
    (s.take t m).has u m' ↔ t = u ∧ m = m' ∨ s.has u m' := by
  cases m
  · obtain ⟨hw, -⟩ := free_x.1 hf
    cases m' <;> simp [St.has, St.take, hw]
  · cases m' <;> simp [St.has, St.take, eq_comm (a := u)]

theorem has_give {s : St} {t u : Nat} {m m' : Md} (nd : s.readers.Nodup) (h : s.has t m) :
    (s.give t m).has u m' ↔ s.has u m' ∧ ¬ (t = u ∧ m = m') := by
  cases m
  · have hw : s.writer = some t := h
    cases m' <;> simp [St.has, St.give, hw]
  · cases m' <;> simp [St.has, St.give, nd.mem_erase_iff, eq_comm (a := u), and_comm]

/-- the effect is the one that the counters before and after the step announce (`a`, `b`: what they own) -/
def Eff.fits (s : St) : Eff → Option Md → Option Md → Prop
  | .take m, a, b => s.free m = true ∧ a = none ∧ b = some m
  | .give m, a, b => a = some m ∧ b = none
  | _, a, b => a = b

theorem Move.fits {rt : Bool} {s : St} {p q : Pc} {e : Eff} (h : Move rt s p e q) : e.fits s p.owns q.owns := by
  cases h with
  | rawLocked hf | rawGranted hf => exact ⟨hf, rfl, rfl⟩
  | retestRefused | releaseOk | releaseFault => exact ⟨rfl, rfl⟩
  | _ => rfl

theorem has_eff {s : St} {t : Nat} {e : Eff} {a b : Option Md} (nd : s.readers.Nodup)
    (ht : ∀ m, a = some m ↔ s.has t m) (hf : e.fits s a b) (u : Nat) (m' : Md) :
    (s.eff t e).has u m' ↔ if t = u then b = some m' else s.has u m' := by
  split
  · next hu =>
    subst hu
    cases e with
    | take m => obtain ⟨hf, rfl, rfl⟩ := hf; simp [St.eff, has_take hf, ← ht]
    | give m => obtain ⟨rfl, rfl⟩ := hf; simp [St.eff, has_give nd ((ht m).1 rfl), ← ht]
    | _ => cases hf; exact (ht m').symm
  · next hu =>
    cases e with
    | take m => simp [St.eff, has_take hf.1, hu]
    | give m => simp [St.eff, has_give nd ((ht m).1 hf.1), hu]
    | _ => exact .rfl

/-- a state that a readers-writer lock can be in -/
structure RawOk (writer : Option Nat) (readers : List Nat) : Prop where
  nd : readers.Nodup
  ex : writer.isSome = true → readers = []

theorem RawOk.eff {s : St} {t : Nat} {e : Eff} {a b : Option Md} (h : RawOk s.writer s.readers)
    (ht : ∀ m, a = some m ↔ s.has t m) (hf : e.fits s a b) : RawOk (s.eff t e).writer (s.eff t e).readers := by
  cases e with
  | take m =>
    obtain ⟨hf, rfl, -⟩ := hf
    cases m
    · exact ⟨h.nd, fun _ => (free_x.1 hf).2⟩
    · exact ⟨List.nodup_cons.2 ⟨mt (ht .s).2 nofun, h.nd⟩, fun hw => nomatch (free_s.1 hf ▸ hw : none.isSome = true)⟩
  | give m =>
    cases m
    · exact ⟨h.nd, nofun⟩
    · exact ⟨h.nd.erase t, fun hw => congrArg (·.erase t) (h.ex hw)⟩
  | _ => exact h

/-- the protocol's bookkeeping agrees with the raw lock -/
structure Inv (s : St) : Prop where
  own : ∀ u m, (s.pc u).owns = some m ↔ s.has u m
  raw : RawOk s.writer s.readers

theorem inv_init (n : Nat) : Inv (init n) where
  own u m := by
    have : ((init n).pc u).owns = none := by
      unfold St.pc init
      rw [List.getD_eq_getElem?_getD, List.getElem?_replicate]
      split <;> rfl
    rw [this]
    cases m <;> simp [St.has, init]
  raw := ⟨.nil, fun _ => rfl⟩

theorem Inv.move {s : St} {t : Nat} {e : Eff} {q : Pc} (hi : Inv s) (hl : s.pc t ≠ .unwound)
    (hf : e.fits s (s.pc t).owns q.owns) : Inv ((s.eff t e).setPc t q) where
  own u m := by
    rw [pc_move hl, setPc_has, has_eff hi.raw.nd (hi.own t) hf]
    split
    · exact .rfl
    · exact hi.own u m
  raw := hi.raw.eff (hi.own t) hf

theorem inv_run (rt : Bool) : ∀ (sched : List (Nat × Act)) (s : St), Inv s → Inv (run rt s sched) :=
  run_induct fun h hi => by
    obtain ⟨e, q, hm, rfl⟩ := step_spec h
    exact hi.move hm.live hm.fits

theorem Inv.exclusive {s : St} {t u : Nat} {m : Md} (hi : Inv s) (ht : (s.pc t).owns = some .x)
    (hu : (s.pc u).owns = some m) : t = u := by
  have h1 : s.writer = some t := (hi.own t .x).1 ht
  have h2 := (hi.own u m).1 hu
  cases m with
  | x => exact Option.some.inj (h1.symm.trans h2)
  | s =>
    rw [St.has, hi.raw.ex (by rw [h1]; rfl)] at h2
    cases h2

/-- **The protocol keeps exclusion**: along every schedule a thread with an exclusive guard is the
only thread with any guard (several shared guards may coexist). That a refusal after the second test
has given the raw lock back is `Inv.own` at the counter `refused`, which owns nothing. -/
theorem exclusion (rt : Bool) (n : Nat) (sched : List (Nat × Act)) (t u : Nat) (m : Md)
    (ht : (run rt (init n) sched).pc t = .holding .x) (hu : (run rt (init n) sched).pc u = .holding m) : t = u :=
  (inv_run rt sched (init n) (inv_init n)).exclusive (congrArg Pc.owns ht) (congrArg Pc.owns hu)

end HLV.Kill
