/-
  HLV.Logic.RetryOwned — what a retrying acquisition may hold when it blocks, with owned groups
  among its members: only earlier leaves of the very unit it is blocked inside.

  The rank discipline holds for every rank function that is increasing inside each owned unit
  (`Logic/Order.lean`). For a given lock `x` we build such a rank that puts `x`'s own unit at the bottom
  (position inside the unit) and every other unit above it; the discipline then says that
  whatever is held when `x` is blocked on sits in `x`'s unit, before `x`.
-/
import HLV.Logic.Order
namespace HLV

variable (W : World)

/-- the rank increases along every unit `get_ptrs` hands out -/
def UnitsIncr (rank : LockId → Nat) (ps : List Ptr) : Prop :=
  ∀ p ∈ ps, ∀ m, ((p.fp m).map fun k => rank k.1).Pairwise (· < ·)

theorem unitsIncr_iff {rank : LockId → Nat} {ps : List Ptr} :
    UnitsIncr rank ps ↔ ∀ p ∈ ps, ∀ m, ((p.fp m).map (·.1)).Pairwise fun a b => rank a < rank b := by
  simp only [UnitsIncr, List.pairwise_map]

theorem fitInside_of_unitsIncr (rank : LockId → Nat) (S : Shape) :
    UnitsIncr rank (getPtrs W S) → FitInside W rank S := by
  induction S using Shape.rec
    (motive_2 := fun ss => UnitsIncr rank (getPtrsL W ss) → FitInsideL W rank ss) with
  | owned a s ih =>
    intro h
    -- the group is handed out as one unit, whose sequence is that of all units inside, one after the other
    have h0 := List.forall_mem_singleton.1 h
    -- so each of them is a piece of an increasing sequence
    exact ⟨h0, ih fun q hq m => ((flat_incr_iff m _).1 (h0 m)).1 q hq⟩
  | mutex | rwlock => exact fun _ => trivial
  | boxed s ih | refc s ih => exact fun h => ih fun p hp => h p (sortPtrs_mem.2 hp)
  | nil => trivial
  | cons s ss ih ihs =>
    rename_i h
    have h := List.forall_mem_append.1 h
    exact ⟨ih h.1, ihs h.2⟩
  | _ => assumption

theorem fitInsideL_of_unitsIncr (rank : LockId → Nat) : ∀ ss : List Shape,
    UnitsIncr rank (getPtrsL W ss) → FitInsideL W rank ss :=
  fun ss => fitInside_of_unitsIncr W rank (.seq ss)

/-! ### the rank that puts `x`'s unit at the bottom -/

/-- position inside the unit `l` for its leaves; every other lock sits above the whole unit, in the order
of the list `G` of all leaves -/
def rankAt (G l : List LockId) (y : LockId) : Nat :=
  if y ∈ l then l.idxOf y else l.length + G.idxOf y

theorem rankAt_lt {G l : List LockId} {x y : LockId} (hx : x ∈ l) (h : rankAt G l y < rankAt G l x) :
    y ∈ l ∧ l.idxOf y < l.idxOf x := by
  have hxlt := List.idxOf_lt_length_of_mem hx
  unfold rankAt at h
  rw [if_pos hx] at h
  split at h
  · next hy => exact ⟨hy, h⟩
  · omega

theorem idxOf_incr {G l : List LockId} (hn : G.Nodup) (hl : l.Sublist G) :
    l.Pairwise fun a b => G.idxOf a < G.idxOf b := by
  refine List.Pairwise.sublist hl (List.pairwise_iff_getElem.2 fun i j hi hj hij => ?_)
  rwa [hn.idxOf_getElem i hi, hn.idxOf_getElem j hj]

theorem leaves_eq_or_disjoint {ps : List Ptr} (hn : (ps.flatMap (·.leaves)).Nodup) :
    ∀ ⦃q⦄, q ∈ ps → ∀ ⦃p⦄, p ∈ ps → q = p ∨ ∀ y ∈ q.leaves, y ∉ p.leaves :=
  have hd := (List.pairwise_flatMap.1 hn).2
  List.Pairwise.forall_of_forall_of_flip (fun _ _ => .inl rfl)
    (hd.imp fun h => .inr fun y hq hp => h y hq y hp rfl) (hd.imp fun h => .inr fun y hq hp => h y hp y hq rfl)

theorem flatMap_ids (m : Mode) (ps : List Ptr) (h : ∀ q ∈ ps, (q.fp m).map (·.1) = q.leaves) :
    (ps.flatMap (·.fp m)).map (·.1) = ps.flatMap (·.leaves) := by
  rw [List.map_flatMap, List.flatMap_def, List.flatMap_def, List.map_congr_left h]

/-- which locks a unit takes does not depend on the mode -/
theorem IsMember.ids {ro : RankOpt} {q : RawLockM × FpFun} (h : IsMember ro q) (m : Mode) :
    (q.2 m).map (·.1) = (q.2 .excl).map (·.1) := by
  induction h with
  | mutex x | rwlock x => rfl
  | owned ms _ _ ih =>
    unfold Members.fp
    rw [List.map_flatMap, List.map_flatMap, List.flatMap_def, List.flatMap_def, List.map_congr_left ih]

theorem getPtrs_ids (m : Mode) (S : Shape) : ∀ p ∈ getPtrs W S, (p.fp m).map (·.1) = p.leaves :=
  fun p hp => (getPtrs_isMember W S (ptrsOK_none W S) (p.lock, p.fp) (List.mem_map_of_mem hp)).ids m

theorem getPtrsL_ids (m : Mode) : ∀ ss : List Shape, ∀ p ∈ getPtrsL W ss, (p.fp m).map (·.1) = p.leaves :=
  fun ss => getPtrs_ids W m (.seq ss)

theorem unitsIncr_rankAt (S : Shape) {p : Ptr} (hp : p ∈ getPtrs W S)
    (hn : ((getPtrs W S).flatMap (·.leaves)).Nodup) :
    UnitsIncr (rankAt ((getPtrs W S).flatMap (·.leaves)) p.leaves) (getPtrs W S) := by
  refine unitsIncr_iff.2 fun q hq m => ?_
  rw [getPtrs_ids W m S q hq]
  have hsub : q.leaves.Sublist ((getPtrs W S).flatMap (·.leaves)) :=
    List.sublist_flatten_of_mem (List.mem_map_of_mem hq)
  obtain rfl | hdis := leaves_eq_or_disjoint hn hq hp
  · -- the unit itself: the position inside it
    refine (idxOf_incr (hn.sublist hsub) (.refl _)).imp_of_mem fun ha hb h => ?_
    rwa [rankAt, rankAt, if_pos ha, if_pos hb]
  · -- another unit: a constant plus the position among all leaves
    refine (idxOf_incr hn hsub).imp_of_mem fun ha hb h => ?_
    rw [rankAt, rankAt, if_neg (hdis _ ha), if_neg (hdis _ hb)]
    exact Nat.add_lt_add_left h _

end HLV
