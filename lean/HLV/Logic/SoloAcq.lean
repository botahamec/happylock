/-
  HLV.Logic.SoloAcq — the deterministic reading of the *blocking* acquisitions: one thread alone
  against the raw-lock table, other threads' holds frozen, no faults.

  * every member (leaf, owned group): if the table grants its whole footprint the acquisition
    returns with exactly the footprint taken; otherwise the thread ends up waiting, holding only a
    proper prefix of that member's own footprint (`DetAcq`);
  * a sorting / owned collection: the same over the concatenated footprint;
  * a retrying collection: if everything is available it completes (first round); otherwise it
    ends up waiting inside the blocking acquisition of a member the table does not grant, with every
    other member released — for leaf members: empty-handed, the table exactly as it was.
-/
import HLV.Logic.Solo
namespace HLV

open Prog

variable {pol : Policy} {t : Tid}

/-- `e'` records the same holds, flags and data as `e` (a blocked writer may have been registered
as waiting under the writer-preferring policy) -/
def SameHolds (e e' : Env) : Prop :=
  (∀ x, (e'.locks x).writer = (e.locks x).writer ∧ (e'.locks x).readers = (e.locks x).readers ∧
        (e'.locks x).killed = (e.locks x).killed ∧ (e'.locks x).value = (e.locks x).value) ∧
  e'.keyFlag = e.keyFlag ∧ e'.poison = e.poison

theorem SameHolds.refl (e : Env) : SameHolds e e := ⟨fun _ => ⟨rfl, rfl, rfl, rfl⟩, rfl, rfl⟩

/-- no lock of the footprint has been killed by an earlier fault -/
def Calm (e : Env) (fp : Fp) : Prop := ∀ p ∈ fp, (e.locks p.1).killed = false

theorem calm_of_quiescent (e : Env) (hq : Quiescent e) (fp : Fp) : Calm e fp := fun p _ => (hq p.1).2

theorem solo_bind_stuck {ε α β : Type} (p : Prog ε β) (k : β → Prog ε α) (e e' : Env)
    (h : solo pol t p e = .stuck e') : solo pol t (Prog.bind p k) e = .stuck e' :=
  solo_bindX_stuck h _ _

structure DetAcq (pol : Policy) (t : Tid) (L : RawLockM) (fp : FpFun) : Prop where
  acq_ok : ∀ m e, NotWaiting t e → (Fp.ids (fp m)).Nodup → (∀ p ∈ fp m, avail pol e p = true) →
    solo pol t (L.acq m) e = .done () (takeAll t (fp m) e)
  acq_stuck : ∀ m e, NotWaiting t e → (Fp.ids (fp m)).Nodup → Calm e (fp m) →
    ¬ (∀ p ∈ fp m, avail pol e p = true) →
    ∃ pre e', pre <+: fp m ∧ pre.length < (fp m).length ∧ (∀ p ∈ pre, avail pol e p = true) ∧
      solo pol t (L.acq m) e = .stuck e' ∧ SameHolds (takeAll t pre e) e'

theorem sameHolds_blockedEnv (e : Env) (m : Mode) (x : LockId) : SameHolds e (blockedEnv pol e t m x) := by
  obtain h | ⟨-, -, h⟩ := blockedEnv_cases pol e t m x
  · rw [h]; exact SameHolds.refl e
  · rw [h]
    refine ⟨fun y => ?_, rfl, rfl⟩
    rw [Env.setLock_locks]
    split
    · next hy => subst hy; exact ⟨rfl, rfl, rfl, rfl⟩
    · exact ⟨rfl, rfl, rfl, rfl⟩

theorem solo_acqOp {ε α : Type} (m : Mode) (x : LockId) (c : Resp → Prog ε α) (e : Env)
    (hk : (e.locks x).killed = false) :
    solo pol t (.op (.acq m true x) c) e =
      if avail pol e (x, m) then solo pol t (c .ok) (e.take1 t (x, m)) else .stuck (blockedEnv pol e t m x) := by
  rw [solo, Env.step_acq true hk, avail, hk]
  cases grantable pol (e.locks x) m <;> rfl

theorem calm_of_avail {e : Env} {fp : Fp} (h : ∀ p ∈ fp, avail pol e p = true) : Calm e fp :=
  fun p hp => (avail_iff.1 (h p hp)).1

/-- what a blocking acquisition that cannot complete looks like: waiting, holding a proper
prefix `pre` of the footprint `fp`, the rest of the table as it was -/
def StuckWith (pol : Policy) (t : Tid) (e : Env) (fp : Fp) {ε α : Type} (r : Out ε α) : Prop :=
  ∃ pre e', pre <+: fp ∧ pre.length < fp.length ∧ (∀ p ∈ pre, avail pol e p = true) ∧
    r = .stuck e' ∧ SameHolds (takeAll t pre e) e'

/-- a caller that passes the wait on is waiting in the same way -/
theorem StuckWith.mono {e : Env} {fp : Fp} {ε α ε' α' : Type} {r : Out ε α} {r' : Out ε' α'}
    (h : StuckWith pol t e fp r) (hr : ∀ e', r = .stuck e' → r' = .stuck e') : StuckWith pol t e fp r' := by
  obtain ⟨pre, e', h1, h2, h3, h4, h5⟩ := h
  exact ⟨pre, e', h1, h2, h3, hr e' h4, h5⟩

theorem StuckWith.mono_fp {e : Env} {fp fp' : Fp} {ε α : Type} {r : Out ε α} (hp : fp <+: fp')
    (h : StuckWith pol t e fp r) : StuckWith pol t e fp' r := by
  obtain ⟨pre, e', h1, h2, h⟩ := h
  exact ⟨pre, e', h1.trans hp, Nat.lt_of_lt_of_le h2 hp.length_le, h⟩

/-- waiting inside `fp` with `a` taken before is waiting inside `a ++ fp` -/
theorem StuckWith.after {e : Env} {a fp : Fp} {ε α : Type} {r : Out ε α}
    (ha : a.all (avail pol e) = true) (hd : ∀ p ∈ fp, p.1 ∉ Fp.ids a)
    (h : StuckWith pol t (takeAll t a e) fp r) : StuckWith pol t e (a ++ fp) r := by
  obtain ⟨pre, e', hpre, hlen, hav, hr, hsame⟩ := h
  refine ⟨a ++ pre, e', (List.prefix_append_right_inj a).2 hpre, ?_, fun p hp => ?_, hr,
    takeAll_append a pre e ▸ hsame⟩
  · simp only [List.length_append]; omega
  · rcases List.mem_append.1 hp with h | h
    · exact List.all_eq_true.1 ha p h
    · rw [← avail_takeAll (t := t) _ _ _ (hd p (hpre.subset h))]; exact hav p h

theorem DetAcq.stuck {L : RawLockM} {fp : FpFun} (h : DetAcq pol t L fp) {m : Mode} {e : Env}
    (hw : NotWaiting t e) (hn : (Fp.ids (fp m)).Nodup) (hc : Calm e (fp m))
    (hbad : (fp m).all (avail pol e) = false) : StuckWith pol t e (fp m) (solo pol t (L.acq m) e) :=
  h.acq_stuck m e hw hn hc (all_eq_false_iff.1 hbad)

theorem detAcq_rwLeaf (x : LockId) : DetAcq pol t (rwLeaf x) (fun m => [(x, m)]) where
  acq_ok m e _ _ ha := by
    have h := ha (x, m) (List.mem_singleton.2 rfl)
    rw [rwLeaf, solo_acqOp _ _ _ _ (avail_iff.1 h).1, if_pos h]
    rfl
  acq_stuck m e _ _ hc ha := by
    have h : ¬ avail pol e (x, m) = true := fun h => ha (by simpa using h)
    refine ⟨[], blockedEnv pol e t m x, List.nil_prefix, Nat.zero_lt_one, by simp, ?_, sameHolds_blockedEnv e m x⟩
    rw [rwLeaf, solo_acqOp _ _ _ _ (hc (x, m) (List.mem_singleton.2 rfl)), if_neg h]

theorem detAcq_mutexLeaf (x : LockId) : DetAcq pol t (mutexLeaf x) (fun _ => [(x, .excl)]) where
  acq_ok _ := (detAcq_rwLeaf x).acq_ok .excl
  acq_stuck _ := (detAcq_rwLeaf x).acq_stuck .excl

def Members.DetA (pol : Policy) (t : Tid) (ms : Members) : Prop := ∀ p ∈ ms, DetAcq pol t p.1 p.2

/-- the loop of `ordered_write/read` over the members `ls`, from any table -/
theorem det_acqBody (m : Mode) (ls : Members) (hd : ls.DetA pol t) (e : Env) (k : Nat)
    (hn : (Fp.ids (Members.fp ls m)).Nodup) (hw : NotWaiting t e) (hc : Calm e (Members.fp ls m)) :
    if (Members.fp ls m).all (avail pol e) then
      solo pol t (orderedAcqBody m (Members.locks ls) k) e = .done () (takeAll t (Members.fp ls m) e)
    else StuckWith pol t e (Members.fp ls m) (solo pol t (orderedAcqBody m (Members.locks ls) k) e) := by
  induction ls generalizing e k with
  | nil => simp [orderedAcqBody, solo]
  | cons l ls ih =>
    rw [Members.fp_cons] at hn hc ⊢
    have hl : DetAcq pol t l.1 l.2 := hd l List.mem_cons_self
    obtain ⟨hnl, hnls, hdis⟩ := List.nodup_append.1 (Fp.ids_append _ _ ▸ hn)
    rw [Members.locks_cons, orderedAcqBody, List.all_append]
    cases hal : (l.2 m).all (avail pol e) with
    | false =>
      exact ((hl.stuck hw hnl (fun p hp => hc p (List.mem_append_left _ hp)) hal).mono_fp
        (List.prefix_append _ _)).mono fun _ h => solo_bindX_stuck h _ _
    | true =>
      -- `l` is taken; the others see of the table what they saw before
      have hdisj : ∀ p ∈ Members.fp ls m, p.1 ∉ Fp.ids (l.2 m) :=
        fun p hp hin => hdis _ hin _ (List.mem_map_of_mem hp) rfl
      have := ih (fun q hq => hd q (List.mem_cons_of_mem _ hq)) (takeAll t (l.2 m) e) (k + 1) hnls
        (notWaiting_takeAll _ e hw) fun p hp => by
          rw [takeAll_locks_notin _ _ _ (hdisj p hp)]; exact hc p (List.mem_append_right _ hp)
      rw [all_avail_takeAll _ _ _ hdisj] at this
      rw [solo_call_done (hl.acq_ok m e hw hnl (List.all_eq_true.1 hal)), Bool.true_and, takeAll_append]
      cases hr : (Members.fp ls m).all (avail pol e) with
      | true => exact (if_pos hr).mp this
      | false => exact ((if_neg (Bool.eq_false_iff.1 hr)).mp this).after hal hdisj

theorem detAcq_ordered (ms : Members) (hm : ms.DetA pol t) :
    DetAcq pol t (orderedLock (Members.locks ms)) (Members.fp ms) where
  acq_ok m e hw hn ha :=
    solo_handle_done
      ((if_pos (List.all_eq_true.2 ha)).mp (det_acqBody m ms hm e 0 hn hw (calm_of_avail ha)))
  acq_stuck m e hw hn hc ha :=
    ((if_neg (mt List.all_eq_true.1 ha)).mp (det_acqBody m ms hm e 0 hn hw hc)).mono
      fun _ h => solo_bindX_stuck h _ _

section
variable {ms : Members} {m : Mode} {e : Env}
  (hd : ms.Det pol t) (ha : ms.DetA pol t) (hn : (Fp.ids (Members.fp ms m)).Nodup) (hw : NotWaiting t e)
  (hc : Calm e (Members.fp ms m))

include hd hn hw in
/-- the inner loop of retry's `raw_write/raw_read` in the first round (`first_index = 0`),
from member 1 on: all the remaining members are tried; at the first refusal everything is
released and the index of the member that refused is returned -/
theorem det_retryInner0 (ls pre : Members) (c : RetryCells) (hc0 : c.firstIndex = 0) (hs : ms = pre ++ ls)
    (hne : pre ≠ []) (hpre : (Members.fp pre m).all (avail pol e) = true) :
    if (Members.fp ls m).all (avail pol e) then
      solo pol t (retryInner m (Members.locks ms) (Members.locks ls) pre.length c)
        (takeAll t (Members.fp pre m) e) = .done none (takeAll t (Members.fp ms m) e)
    else ∃ i l, ms[i]? = some l ∧ (l.2 m).all (avail pol e) = false ∧
      solo pol t (retryInner m (Members.locks ms) (Members.locks ls) pre.length c)
        (takeAll t (Members.fp pre m) e) = .done (some i) e := by
  induction ls generalizing pre c with
  | nil => simp [hs, retryInner, solo]
  | cons l ls ih =>
    have hpos : ¬ pre.length = c.firstIndex := by
      rw [hc0]; exact fun h => hne (List.eq_nil_of_length_eq_zero h)
    rw [Members.locks_cons, retryInner, if_neg hpos, solo_tryNext hd hn hw hs, Members.fp_cons, List.all_append]
    cases hal : (l.2 m).all (avail pol e) with
    | true =>
      have := ih (pre ++ [l]) { c with locked := pre.length + 1 } hc0 (by simp [hs]) (by simp)
        (by simp [Members.fp_concat, hpre, hal])
      rw [List.length_append] at this
      rwa [Bool.true_and]
    | false =>
      have hfl : decide (c.firstIndex ≥ pre.length) = false := by
        rw [hc0]; simpa using hne
      refine (if_neg Bool.false_ne_true).mpr ⟨pre.length, l, by simp [hs], hal, ?_⟩
      simp only [Bool.false_eq_true, if_false, recover, solo_rollback hd hn hw hs hpre, hfl, solo]

theorem Members.fp_sublist_of_mem {m : Mode} {ms : Members} {l : RawLockM × FpFun} (h : l ∈ ms) :
    (l.2 m).Sublist (Members.fp ms m) :=
  List.sublist_flatten_of_mem (List.mem_map_of_mem h)

include ha hn hw hc in
/-- a round of retry's outer loop that starts with a member the table does not grant entirely
waits inside that member -/
theorem retryOuter_waits {l : RawLockM × FpFun} {c : RetryCells} (f : Nat) (hget : ms[c.firstIndex]? = some l)
    (hbad : (l.2 m).all (avail pol e) = false) :
    StuckWith pol t e (l.2 m) (solo pol t (retryOuter m (Members.locks ms) (f + 1) c) e) := by
  have hl := List.mem_of_getElem? hget
  have hsub := Members.fp_sublist_of_mem (m := m) hl
  refine ((ha l hl).stuck hw ((hsub.map _).nodup hn) (fun p hp => hc p (hsub.subset hp)) hbad).mono
    fun e' h => ?_
  rw [retryOuter, Members.locks_getD, List.getD_eq_getElem?_getD, hget]
  exact solo_bindX_stuck h _ _

end

/-- **Retrying acquisition, run alone against a frozen table** (fuel ≥ 2 rounds): if the table
grants every member it completes with exactly the footprint taken; otherwise it ends up waiting
inside the blocking acquisition of one member `l`, holding at most a proper prefix of *that
member's own* footprint (nothing at all when `l` is a leaf) — every other member released, the
rest of the table as it was. -/
theorem det_retry_acq (fuel : Nat) (ms : Members) (hd : ms.Det pol t) (ha : ms.DetA pol t)
    (m : Mode) (e : Env) (hw : NotWaiting t e) (hn : (Fp.ids (Members.fp ms m)).Nodup)
    (hc : Calm e (Members.fp ms m)) :
    ((∀ p ∈ Members.fp ms m, avail pol e p = true) →
      solo pol t (retryAcq m (fuel + 2) (Members.locks ms)) e = .done () (takeAll t (Members.fp ms m) e)) ∧
    (¬ (∀ p ∈ Members.fp ms m, avail pol e p = true) →
      ∃ l ∈ ms, StuckWith pol t e (l.2 m) (solo pol t (retryAcq m (fuel + 2) (Members.locks ms)) e)) := by
  rw [← List.all_eq_true]
  cases ms with
  | nil => exact ⟨fun _ => rfl, fun h => absurd rfl h⟩
  | cons l0 rest =>
    -- the outer loop; `retryAcq` is this loop under `handle`
    suffices h : if (Members.fp (l0 :: rest) m).all (avail pol e) then
        solo pol t (retryOuter m (Members.locks (l0 :: rest)) (fuel + 2) {}) e =
          .done () (takeAll t (Members.fp (l0 :: rest) m) e)
      else ∃ l ∈ l0 :: rest, StuckWith pol t e (l.2 m)
        (solo pol t (retryOuter m (Members.locks (l0 :: rest)) (fuel + 2) {}) e) by
      cases hall : (Members.fp (l0 :: rest) m).all (avail pol e) with
      | true => exact ⟨fun _ => solo_handle_done ((if_pos hall).mp h), fun h => absurd rfl h⟩
      | false =>
        obtain ⟨l, hl, hst⟩ := (if_neg (Bool.eq_false_iff.1 hall)).mp h
        exact ⟨fun h => absurd h Bool.false_ne_true, fun _ => ⟨l, hl, hst.mono fun _ h => solo_bindX_stuck h _ _⟩⟩
    rw [Members.fp_cons, List.all_append]
    cases h0 : (l0.2 m).all (avail pol e) with
    | false => exact ⟨l0, List.mem_cons_self, retryOuter_waits ha hn hw hc _ rfl h0⟩
    | true =>
      -- the first round: member 0 is taken, the others are tried
      have hacq0 := (ha l0 List.mem_cons_self).acq_ok m e hw (Members.nodup_split (pre := []) rfl hn).2.1
        (List.all_eq_true.1 h0)
      have hinner := det_retryInner0 hd hn hw rest [l0] { firstLocked := true } rfl rfl (List.cons_ne_nil _ _)
        (by simpa using h0)
      -- `hinner`: from the table with `l0` taken, the inner loop takes `rest` if all of it is available,
      -- and otherwise returns the index of the member that refused with the table back at `e`
      simp only [Members.fp_cons, Members.fp_nil, List.append_nil] at hinner
      have hround : ∀ (r : Option Nat) (e' : Env),
          solo pol t (retryInner m (Members.locks (l0 :: rest)) (Members.locks rest) 1 { firstLocked := true })
            (takeAll t (l0.2 m) e) = .done r e' →
          solo pol t (retryOuter m (Members.locks (l0 :: rest)) (fuel + 2) {}) e =
            solo pol t (match r with
              | none => done ()
              | some i => retryOuter m (Members.locks (l0 :: rest)) (fuel + 1)
                  { firstIndex := i, firstLocked := false, locked := 0 }) e' := by
        intro r e' h
        rw [retryOuter]
        exact (solo_call_done hacq0).trans (solo_bindX_done h _ _)
      rw [Bool.true_and]
      cases hr : (Members.fp rest m).all (avail pol e) with
      | true => exact hround none _ ((if_pos hr).mp hinner)
      | false =>
        -- second round: block on the member that refused
        obtain ⟨i, l, hget, hbad, hi⟩ := (if_neg (Bool.eq_false_iff.1 hr)).mp hinner
        rw [hround (some i) e hi]
        exact ⟨l, List.mem_of_getElem? hget, retryOuter_waits ha hn hw hc fuel hget hbad⟩

theorem IsMember.detAcq {ro : RankOpt} {q : RawLockM × FpFun} (h : IsMember ro q) : DetAcq pol t q.1 q.2 := by
  induction h with
  | mutex x => exact detAcq_mutexLeaf x
  | rwlock x => exact detAcq_rwLeaf x
  | owned ms _ _ ih => exact detAcq_ordered ms ih

theorem getPtrs_detA (W : World) : ∀ S : Shape, (ptrsM (getPtrs W S)).DetA pol t :=
  fun S q hq => (getPtrs_isMember W S (ptrsOK_none W S) q hq).detAcq

theorem getPtrsL_detA (W : World) : ∀ ss : List Shape, (ptrsM (getPtrsL W ss)).DetA pol t :=
  fun ss => getPtrs_detA W (.seq ss)

theorem lockable_of_inOrder : ∀ S : Shape, inOrder S = true → lockable S = true
  | .poisonable _ s, h => lockable_of_inOrder s h
  | .seq _, h | .retry _, h => by simp [inOrder] at h
  | .mutex _, _ | .rwlock _, _ | .boxed _, _ | .refc _, _ | .owned _ _, _ => rfl

theorem toRaw_detAcq (W : World) : ∀ S : Shape, inOrder S = true → DetAcq pol t (toRaw W S) (shapeFp W S) := by
  intro S hS
  have h := toRaw_isRaw W S (lockable_of_inOrder S hS) (shapeOK_none W S)
  rw [hS] at h
  generalize toRaw W S = L, shapeFp W S = fp at h
  -- the flag `true` leaves no case for the retrying loop
  cases h with
  | member q hq => exact hq.detAcq

end HLV
