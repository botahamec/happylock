/-
  C08 — sorting collections agree on one arrangement-independent acquisition order.
-/
import HLV.Logic.Order
import HLV.Props.HoldFamily
namespace HLV

-- @theorem C08_sorted_order_is_strictly_increasing : the lock list of a duplicate-free sorting collection (any length, any listing order) is strictly increasing in address
theorem C08_sorted_order_is_strictly_increasing (ps : List Ptr) (hnd : (ps.map (·.addr)).Nodup) :
    (sortPtrs ps).Pairwise fun p q => p.addr < q.addr :=
  sortPtrs_strict ps hnd

-- @theorem C08_order_does_not_depend_on_the_listing : two duplicate-free listings of the same units (any permutation) are acquired in the same address sequence
theorem C08_order_does_not_depend_on_the_listing (ps ps' : List Ptr) (hp : ps.Perm ps')
    (hnd : (ps.map (·.addr)).Nodup) :
    (sortPtrs ps).map (·.addr) = (sortPtrs ps').map (·.addr) :=
  sortPtrs_addr_congr hp

-- @theorem C08_every_blocking_acquisition_follows_the_address_order : in every execution of every program over valid collections without owned groups (any mix of boxed/ref/retrying/poisonable, any nesting, both modes, any faults), whenever the thread blocks on lock x every lock it holds has a smaller address — so any two sorting acquisitions take their common locks in the same relative order
theorem C08_every_blocking_acquisition_follows_the_address_order (n : Nat) (C : Ctx)
    (prog : List Stmt) (hok : ProgOK (some C.W.addr) C prog) (u : UserSt)
    {tr₁ tr₂ : List (Op × Resp)} {m : Mode} {x : LockId} {r : Resp} {out : Outcome Unit UserSt}
    (hp : Path (program C prog u) (tr₁ ++ (.acq m true x, r) :: tr₂) out)
    (ha : Admissible (HoldSpec n (some C.W.addr)) {} tr₁) :
    ∀ y m', 0 < (ghostAfter (HoldSpec n (some C.W.addr)) {} tr₁).held y m' → C.W.addr y < C.W.addr x :=
  (program_op_ok n _ C prog hok u hp ha).2

-- @theorem C08_valid_flat_sessions_satisfy_the_discipline : the hypothesis of the previous theorem holds for every session on a collection that its checked constructor accepts and that contains no owned group
theorem C08_valid_flat_sessions_satisfy_the_discipline (C : Ctx) (ses : Session)
    (hl : lockable (C.shape ses.coll) = true) (hno : noOwned (C.shape ses.coll) = true)
    (hv : Valid C.W (C.shape ses.coll)) (hf : ses.exit ≠ .forget)
    (hb : ∀ b ∈ ses.body, stepOK (C.shape ses.coll) ses.mode b) :
    SesOK (some C.W.addr) C ses :=
  ⟨hl, shapeOK_addr C.W _ hno hv, hf, hb⟩

-- @theorem C08_owned_groups_are_ordered_as_one_unit : with owned groups (an OwnedLockCollection nested in sorting / retrying collections in any way) every session on a collection accepted by its checked constructor obeys the rank discipline for the rank "address of the unit, then position inside the unit": whenever the thread blocks on lock x every lock it holds belongs to a unit with a smaller address, or to the same owned group and comes earlier in that group's own order — so two sorting acquisitions take their common units in the same relative order and an owned group is never interleaved with other units
theorem C08_owned_groups_are_ordered_as_one_unit (n : Nat) (C : Ctx) (M : Nat) (rank : LockId → Nat) (hM : 0 < M)
    (prog : List Stmt)
    (hses : ∀ st ∈ prog, match st with
      | .ses ses => lockable (C.shape ses.coll) = true ∧ FitOut C.W M rank (C.shape ses.coll) ∧
          Valid C.W (C.shape ses.coll) ∧ ses.exit ≠ .forget ∧
          ∀ b ∈ ses.body, stepOK (C.shape ses.coll) ses.mode b
      | _ => True)
    (u : UserSt) {tr₁ tr₂ : List (Op × Resp)} {m : Mode} {x : LockId} {r : Resp} {out : Outcome Unit UserSt}
    (hp : Path (program C prog u) (tr₁ ++ (.acq m true x, r) :: tr₂) out)
    (ha : Admissible (HoldSpec n (some rank)) {} tr₁) :
    ∀ y m', 0 < (ghostAfter (HoldSpec n (some rank)) {} tr₁).held y m' → rank y < rank x := by
  have hok : ProgOK (some rank) C prog := by
    intro st hst
    have := hses st hst
    cases st with
    | ses ses => exact ⟨this.1, shapeOK_rank _ this.2.1 this.2.2.1, this.2.2.2.1, this.2.2.2.2⟩
    | _ => trivial
  exact (program_op_ok n _ C prog hok u hp ha).2

-- @theorem C08_nested_collections_contribute_their_leaves : a boxed, ref or retrying collection nested in a sorting collection hands its member locks (not itself) to the enclosing sort; an owned collection hands itself as one unit
theorem C08_nested_collections_contribute_their_leaves (W : World) (s : Shape) (a : Nat) :
    getPtrs W (.boxed s) = sortPtrs (getPtrs W s) ∧ getPtrs W (.refc s) = sortPtrs (getPtrs W s) ∧
    getPtrs W (.retry s) = getPtrs W s ∧ (getPtrs W (.owned a s)).length = 1 := by
  simp [getPtrs]

/-! non-vacuity: a valid nested flat shape, listed against the address order -/
example : noOwned (.boxed (.seq [.rwlock 2, .retry (.seq [.rwlock 0, .rwlock 1])])) = true := by decide
example : Valid { addr := fun x => 10 - x } (.boxed (.seq [.rwlock 2, .retry (.seq [.rwlock 0, .rwlock 1])])) := by
  simp [Valid, ValidL, getPtrs, getPtrsL]

end HLV
