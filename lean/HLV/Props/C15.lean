/-
  C15 — the type system confines protected data to live holds.
  Table theorems over `HLV.Generated.Facts`, regenerated from /repo/src on every run.
-/
import HLV.Static.Constructors
import HLV.Static.ReachTry
import HLV.Static.ReachNonAcq
namespace HLV
open HLV.Static HLV.Gen


-- @theorem C15_send_sync_at_least_std : every manual Send/Sync impl in the crate is one of the expected ones and carries at least the bounds of the reference table (std's Mutex/RwLock/guard conditions; a collection holding &L needs L: Sync to be Send)
theorem C15_send_sync_at_least_std : c15_sendSync = [] := by decide +kernel

/-- finding D8 (collections and `Poisonable`): the scoped closure's argument has the lifetime of
the borrow of the collection, not a higher-ranked one, so the closure can return it -/
def recordedC15_closures : List (Nat × Nat) :=
  [Sym.BoxedLockCollection, Sym.OwnedLockCollection, Sym.RefLockCollection, Sym.RetryingLockCollection,
   Sym.Poisonable].flatMap (fun t =>
    [Sym.scoped_lock, Sym.scoped_try_lock, Sym.scoped_read, Sym.scoped_try_read].map fun f => (t, f)) ++
  [Sym.scoped_write, Sym.scoped_try_write, Sym.scoped_read, Sym.scoped_try_read].map fun f => (0, f)

-- @theorem C15_closure_arguments_higher_ranked_partial : PARTIAL — the scoped closures of Mutex and RwLock take their argument with a higher-ranked lifetime (a reference cannot be returned from the closure); the only scoped functions whose closure argument mentions a named lifetime of the function are the recorded ones (finding D8: collections, Poisonable, and the shared helpers)
theorem C15_closure_arguments_higher_ranked_partial :
    c15_closureLifetimes.all (fun x => recordedC15_closures.contains x) = true := by decide +kernel

-- @theorem C15_ownedlockable_only_for_owning_types : OwnedLockable is implemented for no shared reference, and every impl for a container, wrapper or collection requires its element parameters to be OwnedLockable themselves
theorem C15_ownedlockable_only_for_owning_types : c15_ownedLockable = [] := ownedLockable_nil

-- @theorem C15_unchecked_constructors_need_owned_or_unsafe : new / new_ref of every collection require OwnedLockable inputs; new_unchecked is unsafe (also the compile-time half of C07)
theorem C15_unchecked_constructors_need_owned_or_unsafe : c15_uncheckedConstructors = [] := uncheckedConstructors_nil

-- @theorem C15_owned_collection_gives_no_shared_access : OwnedLockCollection has no safe &self method returning a reference, no AsRef impl and no IntoIterator for &OwnedLockCollection
theorem C15_owned_collection_gives_no_shared_access : c15_ownedSharedAccess = [] := by decide +kernel

-- @theorem C15_no_mutable_access_to_checked_collections_of_borrowed_locks : the collections that can be built over borrowed locks (their try_new tests for duplicates once) give safe mutable access to their underlying container (child_mut, iter_mut, AsMut, DerefMut, IntoIterator for &mut) only when the element type owns its locks — otherwise a lock that is already inside could be added after the test and lock() would wait for a lock the thread holds itself
theorem C15_no_mutable_access_to_checked_collections_of_borrowed_locks : c15_mutableAccessToChecked = [] := mutableAccessToChecked_nil

-- @theorem C15_hold_tokens_are_never_send : every struct whose Drop releases a raw lock (MutexRef, RwLockReadRef, RwLockWriteRef) has a PhantomData field over a raw pointer, so it is !Send for every raw lock — also for raw locks whose guards may be sent (spin, parking_lot with send_guard): the guards lend &mut to these tokens, and a Send token could be swapped with the token inside another thread's guard (D18, repaired)
theorem C15_hold_tokens_are_never_send : c15_holdTokenMarkers = [] ∧ holdTokens.length ≥ 3 := by decide +kernel

-- @theorem C15_raw_entry_points_are_unsafe : RawLock, Lockable, Sharable, OwnedLockable, Keyable are unsafe traits; every RawLock method except poison, and guard/data_mut/read_guard/data_ref, are unsafe fns
theorem C15_raw_entry_points_are_unsafe : c15_unsafeEntryPoints = [] := by decide +kernel

-- @theorem C15_deref_ties_reference_to_guard_borrow : every Deref/DerefMut impl returns a reference with the elided lifetime of &self / &mut self
theorem C15_deref_ties_reference_to_guard_borrow : c15_derefLifetimes = [] := by decide +kernel

-- @theorem C15_try_paths_never_reach_a_blocking_operation : (static half of C04) no function named try_* / scoped_try_* / raw_try_* / ordered_try_* reaches raw_write, raw_read, ordered_write/read or lock_api's blocking calls through the crate's own functions
theorem C15_try_paths_never_reach_a_blocking_operation : c04_tryReachesBlocking = [] := tryReachesBlocking_nil

-- @theorem C15_nonacquiring_paths_never_reach_a_blocking_operation : (static half of C17) Debug::fmt, is_poisoned, clear_poison, accessors, constructors, get_ptrs and poison never reach a blocking operation through the crate's own functions
theorem C15_nonacquiring_paths_never_reach_a_blocking_operation : c17_nonAcqReachesBlocking = [] := nonAcqReachesBlocking_nil

end HLV
