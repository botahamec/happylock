/-
  C11 — a panic in user code never leaks a lock or a key.
-/
import HLV.Props.HoldFamily
namespace HLV

-- @theorem C11_panicking_session_releases_everything : a session of any API flavour, key style, mode and shape whose body panics (exit = panic) ends — in the caller's catch_unwind — with nothing held, on every answer sequence
theorem C11_panicking_session_releases_everything (n : Nat) (ro : RankOpt) (C : Ctx) (ses : Session)
    (hok : SesOK ro C ses) (_hp : ses.exit = .panic) (u : UserSt) (g : HG)
    (hh : g.held = Held.empty) (hd : g.depth = 0) :
    wp (HoldSpec n ro) (session C ses u) (fun _ g' => g'.held = Held.empty ∧ g'.depth = 0)
      (fun _ _ => False) g :=
  (session_spec C ses u hok ⟨hh, hd⟩).mono (fun _ _ h => h.empty) fun _ _ h => h

-- @theorem C11_unwinding_guard_drop_releases_all : while a panic unwinds, dropping the guard still releases every leaf exactly once (poison flags are set on the way); it cannot itself unwind
theorem C11_unwinding_guard_drop_releases_all (n : Nat) (ro : RankOpt) (S : Shape) (m : Mode) (g : HG)
    (hc : g.held.Covers (holdsOf S m)) :
    wp (HoldSpec n ro) (guardDrop m (guardItems S) true)
      (fun _ g' => g'.held = g.held.minus (holdsOf S m)) (fun _ _ => False) g := by
  rw [guardDrop_eq]
  exact (guardDropG_shape ⟨rfl, rfl⟩ hc).mono (fun _ _ h => h.held) fun _ _ h => h

-- @theorem C11_key_back_after_panic_with_nothing_held : on every execution, the point at which a panicked call has given the key back (mark keyBack) is reached with nothing held
theorem C11_key_back_after_panic_with_nothing_held (n : Nat) (ro : RankOpt) (C : Ctx) (prog : List Stmt)
    (hok : ProgOK ro C prog) (u : UserSt)
    {tr₁ tr₂ : List (Op × Resp)} {r : Resp} {out : Outcome Unit UserSt}
    (hp : Path (program C prog u) (tr₁ ++ (.mark mkKeyBack, r) :: tr₂) out)
    (ha : Admissible (HoldSpec n ro) {} tr₁) :
    ∀ x m, (ghostAfter (HoldSpec n ro) {} tr₁).held x m = 0 :=
  program_op_ok n ro C prog hok u hp ha (Or.inl rfl)

end HLV
