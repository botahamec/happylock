/-
  HLV.Props.HoldFamily — the theorems cited by C01, C03, C04, C05, C08, C11, C12, C17: every client
  program over the modelled API, of any length, on collections of any kind, size and nesting,
  obeys the hold discipline on every execution — whatever the other threads do (they appear
  only as answers) and with up to `n` panicking raw-lock operations, `n` arbitrary.
-/
import HLV.Logic.Sessions
namespace HLV

/-- A program a well-typed client can write: every session is on a lockable collection, uses
its guard as the types allow and does not leak it with `mem::forget`. -/
def ProgOK (ro : RankOpt) (C : Ctx) (prog : List Stmt) : Prop := ∀ st ∈ prog, StmtOK ro C st

theorem program_hold (n : Nat) (ro : RankOpt) (C : Ctx) (prog : List Stmt) (hok : ProgOK ro C prog) (u : UserSt) :
    wp (HoldSpec n ro) (program C prog u)
      (fun _ g => g.held = Held.empty ∧ g.depth = 0) (fun _ _ => False) {} :=
  program_spec C prog u hok ⟨rfl, rfl⟩

theorem program_traces (n : Nat) (ro : RankOpt) (C : Ctx) (prog : List Stmt) (hok : ProgOK ro C prog) (u : UserSt)
    {tr : List (Op × Resp)} {out : Outcome Unit UserSt} (hp : Path (program C prog u) tr out) :
    TraceOK (HoldSpec n ro) {} tr :=
  (wp_sound (HoldSpec n ro) (program_hold n ro C prog hok u) hp).1

theorem program_op_ok (n : Nat) (ro : RankOpt) (C : Ctx) (prog : List Stmt) (hok : ProgOK ro C prog) (u : UserSt)
    {tr₁ tr₂ : List (Op × Resp)} {o : Op} {r : Resp} {out : Outcome Unit UserSt}
    (hp : Path (program C prog u) (tr₁ ++ (o, r) :: tr₂) out)
    (ha : Admissible (HoldSpec n ro) {} tr₁) :
    holdPre ro (ghostAfter (HoldSpec n ro) {} tr₁) o :=
  (program_traces n ro C prog hok u hp).at (HoldSpec n ro) ha

/-! ### non-vacuity: a concrete nested world and a concrete program that is `ProgOK` -/

def exW : World := { addr := fun x => 10 - x }
def exC : Ctx :=
  { W := exW
    colls := [ .boxed (.seq [.mutex 0, .retry (.seq [.rwlock 1, .poisonable 0 (.mutex 2)])]),
               .owned 7 (.seq [.rwlock 3, .rwlock 4]) ] }
def exProg : List Stmt :=
  [ .get,
    .ses { coll := 0, api := .lock, mode := .excl, key := .owned,
           body := [.write 1 5, .read 2, .dbg 1], exit := .panic },
    .get,
    .ses { coll := 1, api := .scopedTry, mode := .shared, key := .lent, body := [.read 0], exit := .ret } ]

example : ProgOK none exC exProg := by
  intro st hst
  simp only [exProg, List.mem_cons, List.mem_nil_iff, or_false] at hst
  rcases hst with rfl | rfl | rfl | rfl
  · trivial
  · refine ⟨rfl, shapeOK_none _ _, by decide, ?_⟩
    intro b hb
    simp only [List.mem_cons, List.mem_nil_iff, or_false] at hb
    rcases hb with rfl | rfl | rfl
    · exact ⟨1, by decide⟩
    · show 2 < _; decide
    · trivial
  · trivial
  · refine ⟨rfl, shapeOK_none _ _, by decide, ?_⟩
    intro b hb
    simp only [List.mem_cons, List.mem_nil_iff, or_false] at hb
    subst hb
    show 0 < _; decide

end HLV
