/-
  C07 — duplicate-lock detection is exact.
-/
import HLV.Logic.Order
import HLV.Static.Constructors
namespace HLV

/-- on a list sorted by ≤ equal elements are adjacent -/
theorem adjacentDup_false_iff (l : List Nat) (hs : l.Pairwise (· ≤ ·)) : adjacentDup l = false ↔ l.Nodup := by
  induction l with
  | nil => simp [adjacentDup]
  | cons a l ih =>
    cases l with
    | nil => simp [adjacentDup]
    | cons b r =>
      obtain ⟨ha, hs'⟩ := List.pairwise_cons.1 hs
      rw [adjacentDup, Bool.or_eq_false_iff, beq_eq_false_iff_ne, ih hs', List.nodup_cons (a := a)]
      refine and_congr_left fun _ => ⟨fun hab hmem => ?_, fun h hab => h (hab ▸ List.mem_cons_self)⟩
      -- an `a` further down the list would give `a ≤ b ≤ a`
      rcases List.mem_cons.1 hmem with rfl | hmem
      · exact hab rfl
      · exact hab (Nat.le_antisymm (ha b List.mem_cons_self) ((List.pairwise_cons.1 hs').1 a hmem))

-- @theorem C07_sorted_check_is_exact : the duplicate test of the boxed and ref collections' try_new (adjacent-equal scan of the address-sorted list) accepts exactly the inputs in which no unit address occurs twice — for any length and any positions of the duplicate pair
theorem C07_sorted_check_is_exact (W : World) (s : Shape) :
    tryNewSorted W s = true ↔ ((getPtrs W s).map (·.addr)).Nodup := by
  unfold tryNewSorted
  rw [Bool.not_eq_true', adjacentDup_false_iff _ (List.pairwise_map.2 (sortPtrs_le _))]
  exact ((sortPtrs_perm _).map _).nodup_iff

theorem seenDup_false_iff (l seen : List Nat) :
    seenDup l seen = false ↔ l.Nodup ∧ ∀ a ∈ l, a ∉ seen := by
  induction l generalizing seen with
  | nil => simp [seenDup]
  | cons a r ih =>
    simp only [seenDup, Bool.or_eq_false_iff, List.contains_eq_mem, decide_eq_false_iff_not, ih,
      List.nodup_cons, List.mem_cons, not_or, forall_eq_or_imp]
    constructor
    · rintro ⟨ha, hr, h⟩
      exact ⟨⟨fun har => (h a har).1 rfl, hr⟩, ha, fun b hb => (h b hb).2⟩
    · rintro ⟨⟨har, hr⟩, ha, h⟩
      exact ⟨ha, hr, fun b hb => ⟨fun hba => har (hba ▸ hb), h b hb⟩⟩

-- @theorem C07_hashset_check_is_exact : the duplicate test of the retrying collection's try_new (insert every address into a set, stop at the first failure) accepts exactly the duplicate-free inputs
theorem C07_hashset_check_is_exact (W : World) (s : Shape) :
    tryNewRetry W s = true ↔ ((getPtrs W s).map (·.addr)).Nodup := by
  unfold tryNewRetry
  rw [Bool.not_eq_true', seenDup_false_iff]
  exact and_iff_left fun _ _ => List.not_mem_nil

theorem getPtrs_addr_perm (W : World) (S : Shape) : noOwned S = true →
    ((getPtrs W S).map (·.addr)).Perm ((declLeaves S).map W.addr) := by
  induction S using Shape.rec (motive_2 := fun ss => noOwnedL ss = true →
    ((getPtrsL W ss).map (·.addr)).Perm ((declLeavesL ss).map W.addr)) with
  | mutex x | rwlock x => exact fun _ => .refl _
  | boxed s ih | refc s ih => exact fun h => ((sortPtrs_perm _).map _).trans (ih h)
  | owned => exact fun h => nomatch h
  | nil => exact .refl _
  | cons s ss ih ihs =>
    rename_i h
    simp only [noOwnedL, Bool.and_eq_true] at h
    simpa [getPtrsL, declLeavesL] using (ih h.1).append (ihs h.2)
  | _ => assumption

theorem getPtrsL_addr_perm (W : World) : ∀ ss : List Shape, noOwnedL ss = true →
    ((getPtrsL W ss).map (·.addr)).Perm ((declLeavesL ss).map W.addr) :=
  fun ss => getPtrs_addr_perm W (.seq ss)

-- @theorem C07_rejected_iff_some_lock_reachable_twice : when distinct locks have distinct addresses, a checked constructor rejects an input of leaf locks (through any nesting of tuples/vectors, wrappers and boxed/ref/retrying members) exactly if some lock occurs twice among the leaves reachable through it
theorem C07_rejected_iff_some_lock_reachable_twice (W : World) (s : Shape) (hno : noOwned s = true)
    (hinj : ∀ x y, W.addr x = W.addr y → x = y) :
    (tryNewSorted W s = false ↔ ¬ (declLeaves s).Nodup) ∧
    (tryNewRetry W s = false ↔ ¬ (declLeaves s).Nodup) := by
  have hnd : ((getPtrs W s).map (·.addr)).Nodup ↔ (declLeaves s).Nodup := by
    rw [(getPtrs_addr_perm W s hno).nodup_iff, List.Nodup, List.pairwise_map]
    exact List.Pairwise.iff fun x y => not_congr ⟨hinj x y, congrArg W.addr⟩
  exact ⟨Bool.eq_false_iff.trans (not_congr ((C07_sorted_check_is_exact W s).trans hnd)),
    Bool.eq_false_iff.trans (not_congr ((C07_hashset_check_is_exact W s).trans hnd))⟩

/-! non-vacuity and the two directions on concrete inputs (duplicate far apart / nested) -/
example : tryNewSorted { addr := fun x => x } (.seq [.mutex 3, .mutex 1, .retry (.seq [.mutex 2, .mutex 3])]) = false := by
  rw [← Bool.not_eq_true, C07_sorted_check_is_exact]; decide
example : tryNewRetry { addr := fun x => x } (.seq [.mutex 3, .mutex 1, .retry (.seq [.mutex 2, .mutex 3])]) = false := by decide
example : tryNewSorted { addr := fun x => 9 - x } (.seq [.mutex 3, .mutex 1, .retry (.seq [.mutex 2, .mutex 0])]) = true := by
  rw [C07_sorted_check_is_exact]; decide

-- @theorem C07_finding_D9_zero_sized_units_alias : (negative witness, recorded finding D9) the exactness theorems above assume that distinct units have distinct addresses; two empty owned collections are zero-sized and may share one address — then the model, like the real constructors (harness bin/zst), rejects an input in which no lock is reachable twice (it contains no lock at all)
theorem C07_finding_D9_zero_sized_units_alias :
    tryNewSorted { addr := fun x => x } (.seq [.owned 5 (.seq []), .owned 5 (.seq [])]) = false ∧
    tryNewRetry { addr := fun x => x } (.seq [.owned 5 (.seq []), .owned 5 (.seq [])]) = false ∧
    declLeaves (.seq [.owned 5 (.seq []), .owned 5 (.seq [])]) = [] := by
  refine ⟨?_, by decide, rfl⟩
  rw [← Bool.not_eq_true, C07_sorted_check_is_exact]
  decide

/-! ### the compile-time half, over the fact table regenerated from the source -/
section
open HLV.Static HLV.Gen
-- @theorem C07_unchecked_constructors_only_for_owned_inputs : (table theorem, regenerated from the source on every run) the constructors that skip the duplicate test (new, new_ref, From, FromIterator, Default, Extend …) require OwnedLockable inputs or are unsafe, and OwnedLockable is implemented only for types that own their locks (no shared reference, containers and wrappers only over OwnedLockable elements): a lock cannot be given twice to an unchecked constructor in safe code
theorem C07_unchecked_constructors_only_for_owned_inputs :
    c15_uncheckedConstructors = [] ∧ c15_ownedLockable = [] :=
  ⟨uncheckedConstructors_nil, ownedLockable_nil⟩

-- @theorem C07_no_duplicate_can_be_added_after_the_test : (table theorem) the checked collections give safe mutable access to their underlying container only for element types that own their locks, so the result of try_new's duplicate test cannot be invalidated afterwards from safe code
theorem C07_no_duplicate_can_be_added_after_the_test : c15_mutableAccessToChecked = [] :=
  mutableAccessToChecked_nil
end

end HLV
