/-
  C05 — every hold is released exactly once, in its own mode, by its holder.
-/
import HLV.Props.HoldFamily
import HLV.Props.C01
namespace HLV

-- @theorem C05_release_only_what_is_held : on every execution of every well-typed program (any answers, ≤ n faults) each release names a lock the thread holds at that moment in exactly that mode
theorem C05_release_only_what_is_held (n : Nat) (ro : RankOpt) (C : Ctx) (prog : List Stmt)
    (hok : ProgOK ro C prog) (u : UserSt)
    {tr₁ tr₂ : List (Op × Resp)} {m : Mode} {x : LockId} {r : Resp} {out : Outcome Unit UserSt}
    (hp : Path (program C prog u) (tr₁ ++ (.rel m x, r) :: tr₂) out)
    (ha : Admissible (HoldSpec n ro) {} tr₁) :
    0 < (ghostAfter (HoldSpec n ro) {} tr₁).held x m :=
  program_op_ok n ro C prog hok u hp ha

-- @theorem C05_everything_released_at_the_end : when the program is over every hold has been given back: holds are counted, so together with the previous theorem each was released exactly once
theorem C05_everything_released_at_the_end (n : Nat) (ro : RankOpt) (C : Ctx) (prog : List Stmt)
    (hok : ProgOK ro C prog) (u u' : UserSt) {tr : List (Op × Resp)}
    (hp : Path (program C prog u) tr (.ret u')) (ha : Admissible (HoldSpec n ro) {} tr) :
    ∀ x m, (ghostAfter (HoldSpec n ro) {} tr).held x m = 0 := by
  intro x m
  rw [((wp_sound (HoldSpec n ro) (program_hold n ro C prog hok u) hp).2 ha).1]; rfl

-- @theorem C05_guard_drop_releases_each_leaf_once_in_its_mode : dropping the guard of any shape releases exactly its leaves, each once, a mutex exclusively and an rwlock in the mode it was taken, also when a release panics or the thread is already unwinding
theorem C05_guard_drop_releases_each_leaf_once_in_its_mode (n : Nat) (ro : RankOpt) (S : Shape) (m : Mode)
    (panicking : Bool) (g : HG) (hc : g.held.Covers (holdsOf S m)) :
    wp (HoldSpec n ro) (guardDrop m (guardItems S) panicking)
      (fun _ g' => g'.held = g.held.minus (holdsOf S m) ∧ g'.depth = g.depth) (fun _ _ => False) g := by
  rw [guardDrop_eq]
  exact guardDropG_shape ⟨rfl, rfl⟩ hc

-- @theorem C05_collection_release_releases_all_members : the release used by scoped exits and unwind handlers gives back every member even if some unlocks panic (returning or unwinding, the footprint is no longer held)
theorem C05_collection_release_releases_all_members (n : Nat) (ro : RankOpt) (W : World) (S : Shape)
    (hl : lockable S = true) (hk : ShapeOK ro W S) (m : Mode) (g : HG) (hc : g.held.Covers (shapeFp W S m)) :
    wp (HoldSpec n ro) ((toRaw W S).rel m)
      (fun _ g' => g'.held = g.held.minus (shapeFp W S m)) (fun _ g' => g'.held = g.held.minus (shapeFp W S m)) g := by
  apply (toRaw_isLock (n := n) (ro := ro) W S hl hk).rel m g _ _ hc rfl
  intro g' a _ _; exact a

-- @theorem C05_when_all_threads_are_done_every_lock_is_free : in every reachable state of any N-thread system of well-typed programs (any lockable collections, either policy, any interleaving), once every thread has finished, every lock of the table is free: no writer, no readers
theorem C05_when_all_threads_are_done_every_lock_is_free (pol : Policy) (N : Nat) (C : Ctx)
    (progs : Tid → List Stmt) (hok : ∀ t, ProgOK none C (progs t))
    (hidle : ∀ t, N ≤ t → progs t = []) (s : Sys) (hr : Reachable pol (initSys C progs) s)
    (hdone : ∀ t, s.finished t) (x : LockId) :
    (s.env.locks x).writer = none ∧ (s.env.locks x).readers = [] := by
  obtain ⟨H, hi⟩ := reachable_inv pol (initSys_inv none N C progs hok hidle) hr
  cases hf : (s.env.locks x).free with
  | true => simpa [LockSt.free] using hf
  | false =>
    obtain ⟨t, m, h⟩ := LockSt.exists_count_of_not_free hf
    rw [← (hi.lock x).held t m, hi.held_of_done (hdone t)] at h
    exact absurd h (Nat.lt_irrefl 0)

end HLV
