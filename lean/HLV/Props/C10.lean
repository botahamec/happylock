/-
  C10 — poisoning tracks panics during holds, and only those.
-/
import HLV.Logic.EnvStep
import HLV.Logic.Poison
import HLV.Logic.Sessions
import HLV.Model.Seq
namespace HLV

-- @theorem C10_flags_are_set_only_after_a_panic : on every execution of every client program (any answers), whenever a poison flag is set some panic has happened before (a panicking raw-lock answer or a user panic): executions without panics never poison anything
theorem C10_flags_are_set_only_after_a_panic (C : Ctx) (hout : C.outer = false) (prog : List Stmt) (u : UserSt)
    {tr₁ tr₂ : List (Op × Resp)} {p : PoisonId} {r : Resp} {out : Outcome Unit UserSt}
    (hp : Path (program C prog u) (tr₁ ++ (.poisonSet p, r) :: tr₂) out)
    (ha : Admissible PoisonSpec {} tr₁) :
    0 < (ghostAfter PoisonSpec {} tr₁).panics :=
  TraceOK.at PoisonSpec (wp_sound PoisonSpec (program_sound C hout prog u {}) hp).1 ha

-- @theorem C10_panic_counter_counts_only_panics : the counter used above grows only at panicking answers and user-panic marks, so it is zero on a panic-free history
theorem C10_panic_counter_counts_only_panics (g : PG) (tr : List (Op × Resp))
    (hnp : ∀ or ∈ tr, or.2 ≠ .panic ∧ or.1 ≠ .mark mkUserPanic) :
    (ghostAfter PoisonSpec g tr).panics = g.panics :=
  ghostAfter_inv PoisonSpec (I := fun g' => g'.panics = g.panics)
    (fun a ha g' hg' => (poisonUpd_panics g' a.1 a.2 (hnp a ha).1 (hnp a ha).2).trans hg') rfl

-- @theorem C10_guard_panic_poisons_every_wrapper_inside : once a guard of any shape exists (own guard of a Poisonable, or the guard of any collection kind containing Poisonables at any depth), a user panic while it is alive leaves every Poisonable inside poisoned, on every answer sequence (unless the process aborts)
theorem C10_guard_panic_poisons_every_wrapper_inside (C : Ctx) (hout : C.outer = false) (S : Shape) (ses : Session)
    (hx : ses.exit = .panic) (u' : UserSt) (g : PG) :
    wp PoisonSpec (guardPhase C S ses u') (fun _ g' => ∀ p ∈ poisonIds S, g'.flag p = true)
      (fun (_ : Unit) _ => True) g :=
  (guardPhase_poison C hout S ses u' g).mono (fun _ _ h => h hx) fun _ _ h => h

-- @theorem C10_own_scoped_panic_poisons : a user panic inside the scoped closure of a Poisonable poisons it (PARTIAL: for a collection's scoped closure the members' flags are not set — finding D5, see C10_finding_D5 below and known_findings.json)
theorem C10_own_scoped_panic_poisons (C : Ctx) (S : Shape) (p : PoisonId) (hS : isPoisonableTop S = some p)
    (ses : Session) (hx : ses.exit = .panic) (u' : UserSt) (g : PG) :
    wp PoisonSpec (scopedHeld C S ses u') (fun _ g' => g'.flag p = true) (fun (_ : Unit) _ => True) g :=
  (scopedHeld_poison C S ses u' g).mono (fun _ _ h => h hx p hS) fun _ _ h => h

-- @theorem C10_clear_poison_restores_ok : clear_poison resets the flag, and until the next panic during a hold every is_poisoned / guard() reads "not poisoned"
theorem C10_clear_poison_restores_ok (g : PG) (p : PoisonId) (r : Resp) :
    (poisonUpd g (.poisonClear p) r).flag p = false ∧
    (poisonAdm (poisonUpd g (.poisonClear p) r) (.poisonGet p) .no) := by
  have h : (poisonUpd g (.poisonClear p) r).flag p = false := g.flag_set p false
  refine ⟨h, ?_⟩
  show Resp.no = if _ then _ else _
  rw [h]
  rfl

-- @theorem C10_poisoned_acquisition_acquires_and_its_guard_works : the part of a guard session after the acquisition (guard creation reads the flags, Err or Ok) satisfies the hold discipline whatever the flags say: a poisoned result still holds exactly the leaves and its guard releases them exactly once
theorem C10_poisoned_acquisition_acquires_and_its_guard_works (n : Nat) (ro : RankOpt) (C : Ctx)
    (ses : Session) (hok : SesOK ro C ses) (u : UserSt) (g : HG)
    (hh : g.held = Held.empty.plus (holdsOf (C.shape ses.coll) ses.mode)) (hd : g.depth ≤ 1) :
    wp (HoldSpec n ro) (guardPhase C (C.shape ses.coll) ses u)
      (fun _ g' => g'.held = Held.empty ∧ g'.depth = 0) (fun _ _ => False) g :=
  (guardPhase_spec C ses u hok ⟨hh, rfl⟩).mono
    (fun _ _ h => ⟨h.empty.held, h.empty.depth.trans (Nat.sub_eq_zero_of_le hd)⟩) fun _ _ h => h

-- @theorem C10_user_panics_never_kill_a_lock : in the shared state a lock's killed flag is set only by a panicking raw operation or by RawLock::poison; with no raw faults and no kill operation (which happylock never issues, C12) no lock becomes unusable, whatever user code panics
theorem C10_user_panics_never_kill_a_lock (pol : Policy) (e : Env) (t : Tid) (o : Op) (x : LockId)
    (hk : (e.locks x).killed = false) (hno : ∀ y, o ≠ .kill y) :
    ((e.step pol t o false).env.locks x).killed = false := by
  obtain h | ⟨-, h⟩ := (Env.step_locks pol e t o false x).killed_eq
  · exact h.trans hk
  · exact (h.elim Bool.noConfusion (hno x)).elim

/-! ### finding D5, reproduced on the model (the model mirrors the code here) -/

def d5Ctx : Ctx := { W := { addr := fun x => x }, colls := [.retry (.seq [.poisonable 0 (.mutex 0)])] }
def d5Prog : List Stmt :=
  [.get, .ses { coll := 0, api := .scoped, mode := .excl, key := .lent, body := [], exit := .panic }]

/-- A user panic inside the scoped closure of a *collection* leaves a `Poisonable` member
unpoisoned (the unwind handler of `utils::scoped_*` only unlocks). The full completeness
statement of C10 is therefore false of the current code; this witness is also in
`known_findings.json` and is replayed against the real code on every run. -/
theorem C10_finding_D5 :
    ((seqRun [] 60 { env := {} } (program d5Ctx d5Prog {})).2.env.poison 0) = false := by
  decide

/-- the same finding through `Poisonable`'s own `scoped_*`: they set the flag of the wrapper they are
called on only; a `Poisonable` nested inside (directly, or as a member of the wrapped collection)
stays unpoisoned, while the guard route poisons every level -/
def d5bCtx : Ctx := { W := { addr := fun x => x }, colls := [.poisonable 0 (.poisonable 1 (.mutex 0))] }

-- @theorem C10_finding_D5_nested_poisonable : finding D5, second route — a user panic inside the scoped closure of a Poisonable that wraps another Poisonable poisons the outer one and leaves the inner one unpoisoned
theorem C10_finding_D5_nested_poisonable :
    let e := (seqRun [] 60 { env := {} } (program d5bCtx d5Prog {})).2.env
    e.poison 0 = true ∧ e.poison 1 = false := by
  decide

end HLV
