/-
  C06 — at most one live ThreadKey per thread, over every history.
-/
import HLV.Logic.Key
import HLV.Model.Env
namespace HLV

-- @theorem C06_key_refinement : for every client program (any statements, any length) on every answer sequence (refusals, faults, poisoned results, panicking closures included), the invariant holds at every statement boundary: the program owns at most one key token, a leaked token means it owns none, and the thread's flag is set exactly when a token exists (owned or leaked); inside, a key is only ever dropped/forgotten while the flag is set and ThreadKey::get never succeeds during a hold
theorem C06_key_refinement (C : Ctx) (prog : List Stmt) :
    wp KeySpec (program C prog {}) (fun u' g' => KeyInv u' g') (fun (_ : Unit) (_ : KG) => True) {} :=
  program_key C prog ⟨by decide, (fun h => by cases h), by decide⟩

-- @theorem C06_get_succeeds_iff_no_live_key : under the invariant, ThreadKey::get (a test-and-set of the flag) returns a key if and only if the program owns no token and none was leaked
theorem C06_get_succeeds_iff_no_live_key (u : UserSt) (g : KG) (hi : KeyInv u g) (r : Resp)
    (ha : keyAdm g .keyGet r) : r = .ok ↔ (u.keys = 0 ∧ g.leaked = false) := by
  rw [← hi.flag_false_iff]
  rcases ha with ⟨rfl, hf⟩ | ⟨rfl, hf⟩
  · exact iff_of_true rfl hf
  · exact iff_of_false nofun (ne_false_of_eq_true hf)

-- @theorem C06_get_inside_a_hold_never_succeeds : on every execution of every program the marker "ThreadKey::get() returned a key while a guard or closure was alive" is never reached
theorem C06_get_inside_a_hold_never_succeeds (C : Ctx) (prog : List Stmt)
    {tr₁ tr₂ : List (Op × Resp)} {r : Resp} {out : Outcome Unit UserSt}
    (hp : Path (program C prog {}) (tr₁ ++ (.mark mkGotKey, r) :: tr₂) out)
    (ha : Admissible KeySpec {} tr₁) : False :=
  (wp_sound KeySpec (C06_key_refinement C prog) hp).1.at KeySpec ha rfl

-- @theorem C06_leaked_key_is_never_reissued : a leak is permanent (no operation resets it), and by the invariant a leaked key keeps the flag set, so every later ThreadKey::get fails
theorem C06_leaked_key_is_never_reissued (g : KG) (tr : List (Op × Resp)) (hl : g.leaked = true) :
    (ghostAfter KeySpec g tr).leaked = true := by
  refine ghostAfter_inv KeySpec (I := fun g => g.leaked = true) (fun a _ g hl => ?_) hl
  -- `keyUpd` touches the flag, or sets `leaked`
  show (keyUpd g a.1 a.2).leaked = true
  unfold keyUpd
  split
  · exact hl
  · exact hl
  · rfl
  · exact hl

/-- `ThreadKey::get` in the shared state: refused if the thread's flag is set, else the flag is set -/
theorem Env.step_keyGet (pol : Policy) (e : Env) (t : Tid) (fault : Bool) :
    e.step pol t .keyGet fault =
      if e.keyFlag t then .stepped .no e { tid := t, op := .keyGet, resp := .no, raw := false }
      else .stepped .ok (e.setKey t true) { tid := t, op := .keyGet, resp := .ok, raw := false } :=
  rfl

-- @theorem C06_keys_of_different_threads_are_independent : in the shared state the key operations of thread t read and write only t's flag
theorem C06_keys_of_different_threads_are_independent (pol : Policy) (e : Env) (t t' : Tid)
    (ht : t' ≠ t) (o : Op) (ho : o = .keyGet ∨ o = .keyDrop ∨ o = .keyForget) :
    (e.step pol t o false).env.keyFlag t' = e.keyFlag t' ∧ (e.step pol t o false).env.locks = e.locks := by
  -- the state after the step is `e` or `e.setKey t _`, whose flag at `t'` is an `if t' = t`
  rcases ho with rfl | rfl | rfl
  · rw [Env.step_keyGet]
    split
    · exact ⟨rfl, rfl⟩
    · exact ⟨if_neg ht, rfl⟩
  · exact ⟨if_neg ht, rfl⟩
  · exact ⟨rfl, rfl⟩

-- @theorem C06_model_flag_is_test_and_set : the shared-state semantics of ThreadKey::get agrees with the specification's admissible answers and update (so the refinement speaks about the executable model that is compared with the real code)
theorem C06_model_flag_is_test_and_set (pol : Policy) (e : Env) (t : Tid) :
    ∃ r e' ev, e.step pol t .keyGet false = .stepped r e' ev ∧
      keyAdm { flag := e.keyFlag t } .keyGet r ∧
      e'.keyFlag t = (keyUpd { flag := e.keyFlag t } .keyGet r).flag := by
  rw [Env.step_keyGet]
  cases h : e.keyFlag t
  -- the `if` of `step` is decided; `if_pos rfl` reads the flag that `setKey t true` has written at `t`
  · exact ⟨.ok, _, _, rfl, .inl ⟨rfl, rfl⟩, if_pos rfl⟩
  · exact ⟨.no, _, _, rfl, .inr ⟨rfl, rfl⟩, h⟩

/-! non-vacuity: the invariant is satisfiable in all three interesting states -/
example : KeyInv { keys := 0 } { flag := false } := ⟨by decide, (fun h => by cases h), by decide⟩
example : KeyInv { keys := 1 } { flag := true } := ⟨by decide, (fun h => by cases h), by decide⟩
example : KeyInv { keys := 0 } { flag := true, leaked := true } := ⟨by decide, fun _ => rfl, by decide⟩

end HLV
