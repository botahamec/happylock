/-
  C17 — non-acquiring operations never wait and never disturb holds.
-/
import HLV.Props.HoldFamily
import HLV.Static.ReachNonAcq
namespace HLV

-- @theorem C17_debug_never_blocks_and_restores_holds : Debug-formatting a lock or collection of any shape, from any hold state of the caller (including holding the very locks being formatted), issues no blocking acquisition, and whether it returns or unwinds — because a raw operation faults or because the payload's own Debug impl panics (bomb, at any leaf) — the caller's holds are exactly what they were
theorem C17_debug_never_blocks_and_restores_holds (n : Nat) (ro : RankOpt) (bomb : Option LockId) (S : Shape) (g : HG) (hd : 0 < g.depth) :
    wp (HoldSpec n ro) (debugFmt bomb S) (fun _ g' => g'.held = g.held ∧ g'.depth = g.depth)
      (fun _ g' => g'.held = g.held ∧ g'.depth = g.depth) g := by
  -- `hd` plays no part in the proof; it is what makes the statement say "never blocks": at depth > 0
  -- `holdPre` forbids every blocking acquisition
  have _ := hd
  exact debugFmt_spec bomb S ⟨rfl, rfl⟩

-- @theorem C17_nonacquiring_statements_keep_everything : the statements dbg, is_poisoned, clear_poison, ThreadKey::get/drop/forget leave the thread's holds empty-as-found on every answer sequence (no obligation of the hold discipline is violated inside them: in particular nothing blocks at depth > 0)
theorem C17_nonacquiring_statements_keep_everything (n : Nat) (ro : RankOpt) (C : Ctx) (st : Stmt)
    (hna : match st with | .ses _ => False | _ => True) (u : UserSt) (g : HG)
    (hh : g.held = Held.empty) (hd : g.depth = 0) :
    wp (HoldSpec n ro) (stmt C st u) (fun _ g' => g'.held = Held.empty ∧ g'.depth = 0) (fun _ _ => False) g := by
  refine stmt_spec C st u ?_ ⟨hh, hd⟩
  cases st with
  | ses => exact hna.elim
  | _ => trivial

-- @theorem C17_debug_inside_a_hold_is_harmless : a Debug step inside a guard's life or a scoped closure (on any collection, also the one being held) keeps the session's holds; the session still ends with nothing held
theorem C17_debug_inside_a_hold_is_harmless (n : Nat) (ro : RankOpt) (C : Ctx) (S : Shape) (m : Mode) (c : Nat) (bomb : Option LockId)
    (rest : List BodyStep) (hrest : ∀ b ∈ rest, stepOK S m b) (g : HG)
    (hc : g.held.Covers (holdsOf S m)) :
    wp (HoldSpec n ro) (bodySteps C S (.dbg c bomb :: rest)) (fun _ g' => g'.held = g.held ∧ g'.depth = g.depth)
      (fun _ g' => g'.held = g.held ∧ g'.depth = g.depth) g :=
  bodySteps_spec (m := m) (body := .dbg c bomb :: rest) C ⟨rfl, rfl⟩ hc (List.forall_mem_cons.2 ⟨trivial, hrest⟩)

section
open HLV.Static HLV.Gen
-- @theorem C17_nonacquiring_functions_reach_no_blocking_operation_in_the_source : (table theorem, regenerated from the source on every run) from no non-acquiring function (Debug::fmt, is_poisoned, clear_poison, accessors, constructors, into_*) is a blocking raw operation reachable in the call graph
theorem C17_nonacquiring_functions_reach_no_blocking_operation_in_the_source : c17_nonAcqReachesBlocking = [] := nonAcqReachesBlocking_nil
end

end HLV
