/-
  C04 — multi-lock acquisition is all-or-nothing and covers exactly the leaf locks.
-/
import HLV.Props.HoldFamily
import HLV.Logic.SoloAcq
import HLV.Logic.Body
import HLV.Static.ReachTry
namespace HLV

-- @theorem C04_footprint_is_the_leaves_each_once : for every lockable shape (any kinds, sizes, arrangement, nesting) the set of holds its acquisition obtains is a permutation of the declared leaves, each once, mutexes exclusively
theorem C04_footprint_is_the_leaves_each_once (W : World) (m : Mode) (S : Shape)
    (hl : lockable S = true) : (shapeFp W S m).Perm (holdsOf S m) :=
  shapeFp_perm W m S hl

-- @theorem C04_lock_returns_holding_exactly_the_leaves : a blocking lock/read on any lockable shape returns only with exactly the leaves added to the holds (and no fault happened); if it unwinds, the holds are as before
theorem C04_lock_returns_holding_exactly_the_leaves (n : Nat) (ro : RankOpt) (W : World) (S : Shape)
    (hl : lockable S = true) (hk : ShapeOK ro W S) (m : Mode) (g : HG) (hd : g.depth = 0)
    (hlow : LowFp ro g.held (shapeFp W S m)) :
    wp (HoldSpec n ro) ((toRaw W S).acq m)
      (fun _ g' => g'.held = g.held.plus (holdsOf S m) ∧ g'.depth = g.depth ∧ g'.panics = g.panics)
      (fun _ g' => g'.held = g.held ∧ g.panics < g'.panics) g := by
  apply (toRaw_isLock (n := n) (ro := ro) W S hl hk).acq m g _ _ hd hlow
  · exact ⟨Held.plus_perm _ (shapeFp_perm W m S hl), rfl, rfl⟩
  · intro g' a _ c; exact ⟨a, c⟩

-- @theorem C04_try_is_all_or_nothing : try_lock/try_read on any lockable shape either returns true holding exactly the leaves, or returns false with the holds (and everything else) exactly as before; if it unwinds the holds are as before
theorem C04_try_is_all_or_nothing (n : Nat) (ro : RankOpt) (W : World) (S : Shape)
    (hl : lockable S = true) (hk : ShapeOK ro W S) (m : Mode) (g : HG) :
    wp (HoldSpec n ro) ((toRaw W S).try_ m)
      (fun b g' => if b then g'.held = g.held.plus (holdsOf S m) ∧ g'.panics = g.panics else g' = g)
      (fun _ g' => g'.held = g.held ∧ g.panics < g'.panics) g := by
  apply (toRaw_isLock (n := n) (ro := ro) W S hl hk).try_ m g
  · exact ⟨Held.plus_perm _ (shapeFp_perm W m S hl), rfl⟩
  · rfl
  · intro g' a _ c; exact ⟨a, c⟩

-- @theorem C04_try_and_nonacquiring_calls_never_block : on every execution of every well-typed program, no blocking acquisition is issued between the start of a try_* (or non-acquiring) call and its end
theorem C04_try_and_nonacquiring_calls_never_block (n : Nat) (ro : RankOpt) (C : Ctx) (prog : List Stmt)
    (hok : ProgOK ro C prog) (u : UserSt)
    {tr₁ tr₂ : List (Op × Resp)} {m : Mode} {x : LockId} {r : Resp} {out : Outcome Unit UserSt}
    (hp : Path (program C prog u) (tr₁ ++ (.acq m true x, r) :: tr₂) out)
    (ha : Admissible (HoldSpec n ro) {} tr₁) :
    (ghostAfter (HoldSpec n ro) {} tr₁).depth = 0 :=
  (program_op_ok n ro C prog hok u hp ha).1

-- @theorem C04_blocking_lock_returns_iff_all_leaves_available_solo : deterministic reading (thread alone, other threads' holds frozen, quiescent table): the blocking lock/read of a leaf, of a sorting or owned collection or a wrapper around one (any size, arrangement, nesting) RETURNS — with exactly its declared leaves taken on top of the table — if every declared leaf is free for the requested hold; otherwise it does not return: the thread ends up waiting, holding a proper prefix (in acquisition order) of the footprint and nothing else, the table otherwise untouched
theorem C04_blocking_lock_returns_iff_all_leaves_available_solo (pol : Policy) (t : Tid) (W : World)
    (S : Shape) (hS : inOrder S = true) (m : Mode) (e : Env) (hnd : (declLeaves S).Nodup) (hq : Quiescent e) :
    ((holdsOf S m).all (freeFor e) = true →
      solo pol t ((toRaw W S).acq m) e = .done () (takeAll t (shapeFp W S m) e)) ∧
    ((holdsOf S m).all (freeFor e) = false →
      ∃ pre e', pre <+: shapeFp W S m ∧ pre.length < (shapeFp W S m).length ∧
        solo pol t ((toRaw W S).acq m) e = .stuck e' ∧ SameHolds (takeAll t pre e) e') := by
  have hl := lockable_of_inOrder S hS
  have hn := shapeFp_ids_nodup W S m hl hnd
  have hw := quiescent_notWaiting t e hq
  have hd := toRaw_detAcq (pol := pol) (t := t) W S hS
  rw [← all_avail_quiescent pol W S m e hl hq]
  refine ⟨fun h => hd.acq_ok m e hw hn (List.all_eq_true.1 h), fun h => ?_⟩
  obtain ⟨pre, e', h1, h2, -, h4, h5⟩ := hd.stuck hw hn (calm_of_quiescent e hq _) h
  exact ⟨pre, e', h1, h2, h4, h5⟩

-- @theorem C04_blocking_and_try_agree_in_quiescent_states : blocking and try variants of the same acquisition answer the same question (leaf, sorting or owned collection, wrapper; any size, arrangement, nesting): run alone against the same quiescent table, either try returns true and the blocking call returns, both leaving the SAME table (the old one plus exactly the declared leaves), or try returns false leaving the table untouched and the blocking call is left waiting — never a third outcome (spin, abort, unwind, or a success over a busy leaf)
theorem C04_blocking_and_try_agree_in_quiescent_states (pol : Policy) (t : Tid) (W : World)
    (S : Shape) (hS : inOrder S = true) (m : Mode) (e : Env) (hnd : (declLeaves S).Nodup) (hq : Quiescent e) :
    (solo pol t ((toRaw W S).try_ m) e = .done true (takeAll t (shapeFp W S m) e) ∧
      solo pol t ((toRaw W S).acq m) e = .done () (takeAll t (shapeFp W S m) e)) ∨
    (solo pol t ((toRaw W S).try_ m) e = .done false e ∧
      ∃ e', solo pol t ((toRaw W S).acq m) e = .stuck e') := by
  have hx := C04_blocking_lock_returns_iff_all_leaves_available_solo pol t W S hS m e hnd hq
  rw [toRaw_try_quiescent pol t W S m e (lockable_of_inOrder S hS) hnd hq]
  cases hb : (holdsOf S m).all (freeFor e) with
  | true => exact .inl ⟨rfl, hx.1 hb⟩
  | false =>
    obtain ⟨_, e', _, _, h4, _⟩ := hx.2 hb
    exact .inr ⟨rfl, e', h4⟩

/-- non-vacuity: a boxed collection around a ref collection and an owned group is `inOrder` -/
example : inOrder (.boxed (.seq [.refc (.seq [.rwlock 1, .mutex 2]), .owned 3 (.seq [.mutex 4, .rwlock 5])])) = true := by decide

-- @theorem C04_scoped_closure_runs_exactly_once_iff_acquired : along every execution of every scoped session (scoped_lock / scoped_read / scoped_try_* on any shape, any answers of the raw locks, faults and user panics included) either the closure was entered exactly once — the acquisition had succeeded — or it was not entered at all and the call reports WouldBlock (the try failed) or a panic (the acquisition itself unwound); it never reports Ok without having run the closure, and never runs it twice
theorem C04_scoped_closure_runs_exactly_once_iff_acquired (C : Ctx) (S : Shape) (ses : Session)
    (u u' : UserSt) (n : Nat) :
    wp BodySpec (scopedSessionWith C S ses u u')
      (fun r n' => n' = n + 1 ∨ (n' = n ∧ (r.1 = mkOutWouldBlock ∨ r.1 = mkOutPanic)))
      (fun (_ : Unit) _ => True) n :=
  scopedSession_body_once C S ses u u' (fun _ => .inl rfl) fun _ _ h => .inr ⟨rfl, h⟩

section
open HLV.Static HLV.Gen
-- @theorem C04_try_functions_reach_no_blocking_operation_in_the_source : (table theorem, regenerated from the source on every run) from no try_* function of the crate is a blocking raw operation reachable in the call graph
theorem C04_try_functions_reach_no_blocking_operation_in_the_source : c04_tryReachesBlocking = [] := tryReachesBlocking_nil
end

end HLV
