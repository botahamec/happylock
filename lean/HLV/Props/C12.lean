/-
  C12 — a panicking raw lock operation leaks nothing and kills only that lock.
-/
import HLV.Props.HoldFamily
import HLV.Logic.EnvStep
import HLV.Logic.Kill
import HLV.Static.KillRules
namespace HLV

-- @theorem C12_no_leak_under_any_number_of_faults : for every bound n on panicking raw operations (1 = one-shot, any n = persistent), every well-typed program keeps the hold discipline: releases only of held locks, nothing held when a call has ended
theorem C12_no_leak_under_any_number_of_faults (n : Nat) (ro : RankOpt) (C : Ctx) (prog : List Stmt)
    (hok : ProgOK ro C prog) (u : UserSt)
    {tr : List (Op × Resp)} {out : Outcome Unit UserSt} (hp : Path (program C prog u) tr out) :
    TraceOK (HoldSpec n ro) {} tr :=
  program_traces n ro C prog hok u hp

-- @theorem C12_happylock_never_kills_a_lock_itself : no execution of any well-typed program issues `RawLock::poison` on any lock: a lock becomes unusable only through the panic of its own operation
theorem C12_happylock_never_kills_a_lock_itself (n : Nat) (ro : RankOpt) (C : Ctx) (prog : List Stmt)
    (hok : ProgOK ro C prog) (u : UserSt)
    {tr₁ tr₂ : List (Op × Resp)} {x : LockId} {r : Resp} {out : Outcome Unit UserSt}
    (hp : Path (program C prog u) (tr₁ ++ (.kill x, r) :: tr₂) out)
    (ha : Admissible (HoldSpec n ro) {} tr₁) : False :=
  program_op_ok n ro C prog hok u hp ha

-- @theorem C12_acquisition_unwinds_with_holds_as_before : if a blocking acquisition of any shape unwinds (a raw operation panicked at any index, in any round), everything it had taken has been released or is stuck on a killed lock: the holds are exactly as before the call
theorem C12_acquisition_unwinds_with_holds_as_before (n : Nat) (ro : RankOpt) (W : World) (S : Shape)
    (hl : lockable S = true) (hk : ShapeOK ro W S) (m : Mode) (g : HG) (hd : g.depth = 0)
    (hlow : LowFp ro g.held (shapeFp W S m)) :
    wp (HoldSpec n ro) ((toRaw W S).acq m) (fun _ _ => True) (fun _ g' => g'.held = g.held) g := by
  apply (toRaw_isLock (n := n) (ro := ro) W S hl hk).acq m g _ _ hd hlow trivial
  intro g' a _ _; exact a

-- @theorem C12_fault_kills_exactly_that_lock : a panicking acquisition or release of lock x leaves every other lock's state untouched, sets x's killed flag and does not change who holds x
theorem C12_fault_kills_exactly_that_lock (pol : Policy) (e : Env) (t : Tid) (o : Op) (x : LockId)
    (hx : (∃ m b, o = .acq m b x) ∨ (∃ m, o = .rel m x)) (hk : (e.locks x).killed = false ∨ ∃ m, o = .rel m x) :
    ∃ ev, e.step pol t o true = .stepped .panic (e.setLock x { e.locks x with killed := true }) ev := by
  rcases hx with ⟨m, b, rfl⟩ | ⟨m, rfl⟩
  · rcases hk with hk | ⟨m', h⟩
    · exact ⟨_, Env.step_acq_fault b hk⟩
    · cases h
  · exact ⟨_, rfl⟩

-- @theorem C12_killed_lock_refuses_every_acquisition : once killed, a lock answers every try with "no" and every blocking acquisition with a panic, without any raw operation and without changing any state
theorem C12_killed_lock_refuses_every_acquisition (pol : Policy) (e : Env) (t : Tid) (m : Mode)
    (b : Bool) (x : LockId) (fault : Bool) (hk : (e.locks x).killed = true) :
    ∃ ev, e.step pol t (.acq m b x) fault = .stepped (if b then .panic else .no) e ev ∧ ev.raw = false :=
  ⟨_, Env.step_acq_killed b fault hk, rfl⟩

-- @theorem C12_killed_is_forever : no operation of any thread, faulty or not, ever clears a killed flag
theorem C12_killed_is_forever (pol : Policy) (e : Env) (t : Tid) (o : Op) (fault : Bool) (x : LockId)
    (hk : (e.locks x).killed = true) : ((e.step pol t o fault).env.locks x).killed = true := by
  obtain h | ⟨h, -⟩ := (Env.step_locks pol e t o fault x).killed_eq
  · exact h.trans hk
  · exact h

/-! ### the kill flag at statement granularity (`Model/Kill.lean`, `Logic/Kill.lean`) -/

-- @theorem C12_kill_flag_is_tested_again_after_the_raw_acquisition_in_the_source : in the source as it is now, every acquiring function of `impl RawLock for Mutex / RwLock` tests the kill flag before the raw acquisition and again after it, with the matching raw release after the second test; every raw acquisition (in acquiring functions) and every raw release (in releasing functions) is followed by the recovery closure that stores the flag; six acquiring and three releasing functions carry the protocol themselves (the others delegate)
theorem C12_kill_flag_is_tested_again_after_the_raw_acquisition_in_the_source :
    Static.c12_killFlagProtocol = [] ∧ Static.c12_recovery = [] ∧ Static.c12_protocolFnsSeen = (6, 3) := by
  decide +kernel

-- @theorem C12_no_guard_is_handed_out_once_the_kill_flag_is_up : in the statement-level protocol (flag test; raw acquire; flag test; — release: raw unlock; — a panicking raw operation: store the flag), for any number of threads and every schedule of blocking and try acquisitions, releases, raw panics and flag stores: if the flag is up after the schedule has run, no further step of any thread hands a guard to anybody
theorem C12_no_guard_is_handed_out_once_the_kill_flag_is_up (n : Nat) (p : List (Nat × Kill.Act)) (t u : Nat)
    (a : Kill.Act) (s' : Kill.St)
    (hk : (Kill.run true (Kill.init n) p).killed = true)
    (h : Kill.step true (Kill.run true (Kill.init n) p) t a = some s') :
    Kill.grants (Kill.run true (Kill.init n) p) s' u = false :=
  Kill.no_guard_once_flag_is_up (Kill.init n) p t u a s' hk h

-- @theorem C12_kill_flag_is_never_lowered : once stored, the flag stays up along every schedule
theorem C12_kill_flag_is_never_lowered (rt : Bool) (n : Nat) (p q : List (Nat × Kill.Act))
    (hk : (Kill.run rt (Kill.init n) p).killed = true) : (Kill.run rt (Kill.init n) (p ++ q)).killed = true := by
  rw [Kill.run_append]; exact Kill.run_killed_mono rt q _ hk

-- @theorem C12_kill_protocol_keeps_exclusion : the second test and the give-back release do not disturb exclusion: along every schedule (exclusive and shared acquisitions of one lock) a thread with an exclusive guard is the only thread with any guard, and a refused thread has returned the raw lock
theorem C12_kill_protocol_keeps_exclusion (rt : Bool) (n : Nat) (sched : List (Nat × Kill.Act)) (t u : Nat) (m : Kill.Md)
    (ht : (Kill.run rt (Kill.init n) sched).pc t = .holding .x)
    (hu : (Kill.run rt (Kill.init n) sched).pc u = .holding m) : t = u :=
  Kill.exclusion rt n sched t u m ht hu

-- @theorem C12_model_exhibits_D15_D15b_and_the_residual_window : the protocol without the second test hands a guard to a waiter (D15) and to a try in flight (D15b) after the flag went up; with the second test both are refused (also on the shared path: a reader in flight when another reader's raw lock_shared kills the lock is refused and gives the lock back, the readers already inside keep their guards); and the window that remains is real: a waiter can pass the second test between a raw unlock that releases-then-panics and the store of the flag
theorem C12_model_exhibits_D15_D15b_and_the_residual_window :
    (Kill.run false (Kill.init 3) Kill.schedKillWhileWaiting).pc 1 = .holding .x ∧
    (Kill.run false (Kill.init 3) Kill.schedKillWhileWaiting).killed = true ∧
    (Kill.run false (Kill.init 2) Kill.schedKillDuringTry).pc 1 = .holding .x ∧
    (Kill.run true (Kill.init 3) Kill.schedKillWhileWaiting).pc 1 = .refused ∧
    (Kill.run true (Kill.init 3) Kill.schedKillWhileWaiting).writer = none ∧
    (Kill.run true (Kill.init 2) Kill.schedKillDuringTry).pc 1 = .refused ∧
    (Kill.run true (Kill.init 4) Kill.schedReadersKilled).pc 3 = .refused ∧
    (Kill.run true (Kill.init 4) Kill.schedReadersKilled).readers = [1, 0] ∧
    (Kill.run true (Kill.init 2) Kill.schedResidual).pc 1 = .holding .x ∧
    (Kill.run true (Kill.init 2) Kill.schedResidual).killed = true := by decide

end HLV
