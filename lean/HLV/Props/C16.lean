/-
  C16 — values are dropped exactly once and round-trip unchanged.
-/
import HLV.Model.Own
import HLV.Static.OwnRules
namespace HLV.Own
open HLV.Static


-- @theorem C16_ownership_primitives_only_in_audited_functions : in the source as it is now, the only non-test functions that touch an ownership-sensitive primitive (mem::forget, Box::leak / from_raw, ptr::drop_in_place / read / write, MaybeUninit, ManuallyDrop, transmute, set_len …) are the audited ones — BoxedLockCollection::{new_unchecked, drop, into_child}, the six array functions of lockable.rs and unlock_all_writes / unlock_all_reads — and each of them still has its record; everything else is safe Rust, which drops every value exactly once
theorem C16_ownership_primitives_only_in_audited_functions :
    c16_unauditedSensitive = [] ∧ c16_auditedMissing = [] := by decide +kernel

-- @theorem C16_boxed_new_then_drop_frees_everything_once : the call sequences extracted from new_unchecked and Drop::drop of boxed.rs, run on the heap-cell model (new / try_new followed by Drop — also the path of a try_new that rejects its input: the collection is built, then dropped), free the heap cell once, drop the payload once, free the lock list once and touch nothing after freeing it
theorem C16_boxed_new_then_drop_frees_everything_once :
    (boxedNewOps.bind fun n => boxedDropOps.map fun d => (lifeDrop n d).clean false) = some true := by
  decide +kernel

-- @theorem C16_boxed_into_child_moves_payload_out_once : the call sequence extracted from into_child frees the cell once, hands the payload to the caller once without dropping it, frees the lock list once, and the forgotten collection runs neither Drop nor the field glue when it goes out of scope
theorem C16_boxed_into_child_moves_payload_out_once :
    (boxedNewOps.bind fun n => boxedDropOps.bind fun d => boxedIntoChildOps.map fun c =>
      (lifeIntoChild n c d).clean true) = some true := by
  decide +kernel

-- @theorem C16_boxed_source_says_what_the_model_expects : the extracted sequences are the ones the model was written for (a rewrite of boxed.rs that keeps the theorems above true but changes the sequence shows up here first)
theorem C16_boxed_source_says_what_the_model_expects :
    boxedNewOps = some opsNew ∧ boxedDropOps = some opsDrop ∧ boxedIntoChildOps = some opsIntoChild := by
  decide +kernel

-- @theorem C16_model_exhibits_the_classic_mistakes : the model is able to show the bugs the code avoids: into_child without mem::forget double-frees, a Drop that does not reclaim the box leaks, a Box that is not leaked in new_unchecked is freed at the end of the constructor and used afterwards, drop(boxed) followed by into_inner frees twice
theorem C16_model_exhibits_the_classic_mistakes :
    (lifeIntoChild opsNew [.dropLocksInPlace, .fromRaw, .boxIntoInner] opsDrop).clean true = false ∧
    (lifeDrop opsNew [.clearLocks]).clean false = false ∧
    (lifeDrop [.boxNew, .buildLocks] opsDrop).clean false = false ∧
    (lifeIntoChild opsNew [.dropLocksInPlace, .fromRaw, .forgetSelf, .dropBox, .boxIntoInner] opsDrop).clean true = false ∧
    (lifeIntoChild opsNew [.fromRaw, .forgetSelf, .boxIntoInner] opsDrop).clean true = false := by decide

-- @theorem C16_array_fill_is_exact : for every array length N, the loop "for i in 0..N: slot i := element i" followed by assume_init on every slot writes every slot exactly once (no read of uninitialised memory, no overwritten and leaked value, no index out of bounds) and slot j holds the value of element j
theorem C16_array_fill_is_exact (n : Nat) : ({ dst := .loopVar, src := .loopVar } : ArrFill).clean n := by
  have hid : (List.range n).map (Idx.eval .loopVar) = List.range n := List.map_id'' (fun _ => rfl) _
  refine ⟨fun i h => h, ?_, ?_⟩
  · rw [ArrFill.writes, hid,
      List.map_congr_left fun j hj => List.count_range.trans (if_pos (List.mem_range.1 hj))]
    rw [List.map_const', List.length_range]
  · intro j hj
    simp only [ArrFill.source, Idx.eval]
    rw [List.filter_beq, List.count_range, if_pos hj]
    rfl

-- @theorem C16_array_functions_fill_slot_i_from_element_i : the records extracted from [T; N]::{guard, data_mut, read_guard, data_ref, get_mut, into_inner} are all of the shape uninit; for i in 0..N (or enumerate over the elements); one call on element i; write into slot i; assume_init on every slot — so the theorem above is about what the source says now
theorem C16_array_functions_fill_slot_i_from_element_i : c16_arrayFills = [] := by decide +kernel

-- @theorem C16_model_exhibits_array_mistakes : the fill model shows the mistakes the code avoids: writing every value into slot 0 leaves slot 1 uninitialised and leaks, reading every value from element 0 puts values at the wrong positions
theorem C16_model_exhibits_array_mistakes :
    ¬ ({ dst := .const 0, src := .loopVar } : ArrFill).clean 2 ∧
    ¬ ({ dst := .loopVar, src := .const 0 } : ArrFill).clean 2 := by
  constructor
  · intro h; exact absurd h.2.1 (by decide)
  · intro h; exact absurd (h.2.2 1 (by decide)) (by decide)

-- @theorem C16_only_panic_payloads_are_forgotten : the only ownership-sensitive call of unlock_all_writes / unlock_all_reads is mem::forget(e) on the payload of a caught surplus panic — never a stored value
theorem C16_only_panic_payloads_are_forgotten : c16_payloadForget = [] := by decide +kernel

theorem flatten_build (s : OShape) (vs : List Nat) (h : s.size ≤ vs.length) :
    (build s vs).1.flatten = vs.take s.size ∧ (build s vs).2 = vs.drop s.size := by
  induction s using OShape.rec (motive_2 := fun ss => ∀ vs : List Nat, OShape.sizeL ss ≤ vs.length →
    VTree.flattenL (buildL ss vs).1 = vs.take (OShape.sizeL ss) ∧ (buildL ss vs).2 = vs.drop (OShape.sizeL ss))
    generalizing vs with
  | leaf =>
    cases vs with
    | nil => simp [OShape.size] at h
    | cons v vs => exact ⟨rfl, rfl⟩
  | node ss ih => exact ih vs h
  | wrap s ih => exact ih vs h
  | nil => exact ⟨rfl, rfl⟩
  | cons s ss ih ihs =>
    rename_i vs h
    simp only [OShape.sizeL] at h
    obtain ⟨a1, a2⟩ := ih vs (by omega)
    obtain ⟨b1, b2⟩ := ihs (build s vs).2 (by rw [a2, List.length_drop]; omega)
    simp only [buildL, VTree.flattenL, OShape.sizeL]
    exact ⟨by rw [a1, b1, a2, List.take_add], by rw [b2, a2, List.drop_drop]⟩

theorem flattenL_buildL (ss : List OShape) (vs : List Nat) (h : OShape.sizeL ss ≤ vs.length) :
    VTree.flattenL (buildL ss vs).1 = vs.take (OShape.sizeL ss) ∧ (buildL ss vs).2 = vs.drop (OShape.sizeL ss) :=
  flatten_build (.node ss) vs h

-- @theorem C16_round_trip : for every shape (any nesting of tuples, arrays, vectors, boxed slices, wrappers and collections), building it from a list of values in declared order and then taking into_inner / get_mut / the guard positions yields exactly those values, in that order
theorem C16_round_trip (s : OShape) (vs : List Nat) (h : vs.length = s.size) :
    (build s vs).1.flatten = vs := by
  have := (flatten_build s vs (by omega)).1
  rw [this, ← h, List.take_length]

theorem flatten_setPos (t : VTree) (i w : Nat) : (t.setPos i w).flatten = t.flatten.set i w := by
  induction t using VTree.rec (motive_2 := fun ts => ∀ i,
    VTree.flattenL (VTree.setPosL ts i w) = (VTree.flattenL ts).set i w) generalizing i with
  | leaf v =>
    cases i with
    | zero => rfl
    | succ i => rfl
  | node ts ih => exact ih i
  | wrap t ih => exact ih i
  | nil => rfl
  | cons t ts ih ihs =>
    rename_i i
    simp only [VTree.setPosL, VTree.flattenL, List.set_append]
    split
    · rw [VTree.flattenL, ih]
    · rw [VTree.flattenL, ihs]

theorem flattenL_setPosL (ts : List VTree) (i w : Nat) :
    VTree.flattenL (VTree.setPosL ts i w) = (VTree.flattenL ts).set i w :=
  flatten_setPos (.node ts) i w

-- @theorem C16_last_write_is_what_comes_back : a write through position i of a guard or get_mut result changes exactly position i of what into_inner later returns (positions are the declared ones, for every shape)
theorem C16_last_write_is_what_comes_back (t : VTree) (i w : Nat) :
    (t.setPos i w).flatten = t.flatten.set i w :=
  flatten_setPos t i w

/-! non-vacuity -/
example : (build (.node [.leaf, .wrap (.node [.leaf, .leaf]), .node []]) [7, 8, 9]).1.flatten = [7, 8, 9] := by decide

end HLV.Own
