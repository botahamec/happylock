/-
  C01 — deadlock freedom for every mix of locks and collections.
-/
import HLV.Logic.Deadlock
import HLV.Logic.Order
import HLV.Logic.ParSound
import HLV.Props.HoldFamily
namespace HLV

/-- the system in which thread `t` runs the client program `progs t` (every thread starts with
no key and no hold; the lock table is all free) -/
def initSys (C : Ctx) (progs : Tid → List Stmt) : Sys :=
  { env := {}, thr := fun t => Prog.bind (program C (progs t) {}) fun _ => .done () }

theorem initSys_inv (ro : RankOpt) (N : Nat) (C : Ctx) (progs : Tid → List Stmt)
    (hok : ∀ t, ProgOK ro C (progs t)) (hidle : ∀ t, N ≤ t → progs t = []) :
    SysInv ro N (initSys C progs) (fun _ => {}) where
  code t := by
    simp only [initSys]
    rw [wp_bind]
    exact (program_spec C (progs t) {} (hok t) ⟨rfl, rfl⟩).mono (fun _ _ h => h.held) fun _ _ h => h
  alive _ := rfl
  excl _ _ := rfl
  shared _ _ := rfl
  waiters _ _ h := by cases h
  waitNodup _ := List.nodup_nil
  idle t ht := by simp [initSys, hidle t ht, program, Prog.bind, Prog.bindX]

-- @theorem C01_deadlock_free : for any number N of threads, each running any well-typed client program (sessions of every API flavour on collections of any kind, size and nesting, sharing any locks in any arrangement and mode) that obeys the rank discipline, under either wake policy, in every reachable state in which no thread has exhausted its retry fuel or died, if some thread still has work then some thread that still has work is not waiting for a lock
theorem C01_deadlock_free (pol : Policy) (rank : LockId → Nat) (N : Nat) (C : Ctx)
    (progs : Tid → List Stmt) (hok : ∀ t, ProgOK (some rank) C (progs t))
    (hidle : ∀ t, N ≤ t → progs t = []) (s : Sys) (hr : Reachable pol (initSys C progs) s)
    (hns : ∀ t, s.thr t ≠ .spin ∧ s.thr t ≠ .abort) (hrun : ∃ t, s.running t) :
    ∃ t, s.running t ∧ ¬ s.blocked pol t := by
  obtain ⟨H, hi⟩ := reachable_inv pol (initSys_inv (some rank) N C progs hok hidle) hr
  exact no_deadlock pol hi hns hrun

-- @theorem C01_rank_discipline_holds_for_valid_flat_collections : the hypothesis of C01_deadlock_free is met with rank = address by every session on a collection that its checked constructor accepts and that contains no owned group (any mix and nesting of boxed, ref, retrying, poisonable, tuples/vectors, both modes, all API flavours)
theorem C01_rank_discipline_holds_for_valid_flat_collections (C : Ctx) (ses : Session)
    (hl : lockable (C.shape ses.coll) = true) (hno : noOwned (C.shape ses.coll) = true)
    (hv : Valid C.W (C.shape ses.coll)) (hf : ses.exit ≠ .forget)
    (hb : ∀ b ∈ ses.body, stepOK (C.shape ses.coll) ses.mode b) :
    SesOK (some C.W.addr) C ses :=
  ⟨hl, shapeOK_addr C.W _ hno hv, hf, hb⟩

-- @theorem C01_rank_discipline_holds_with_owned_groups : the hypothesis of C01_deadlock_free is also met by collections that contain OWNED groups (an OwnedLockCollection as a member of sorting / retrying collections, nested in any way): for every rank of the form "address of the unit, then position inside the unit" (FitOut), every collection accepted by its checked constructor obeys the rank discipline — an owned group is one indivisible unit sorted by the address of the collection object and taken in its own listing order
theorem C01_rank_discipline_holds_with_owned_groups (C : Ctx) (M : Nat) (rank : LockId → Nat) (hM : 0 < M)
    (ses : Session) (hl : lockable (C.shape ses.coll) = true)
    (hfit : FitOut C.W M rank (C.shape ses.coll)) (hv : Valid C.W (C.shape ses.coll))
    (hf : ses.exit ≠ .forget) (hb : ∀ b ∈ ses.body, stepOK (C.shape ses.coll) ses.mode b) :
    SesOK (some rank) C ses :=
  ⟨hl, shapeOK_rank _ hfit hv, hf, hb⟩

-- @theorem C01_no_thread_waits_for_itself : one thread alone (N = 1) never waits: whatever sequence of acquire and release calls it makes, its next operation is never a blocking acquisition the table refuses
theorem C01_no_thread_waits_for_itself (pol : Policy) (rank : LockId → Nat) (C : Ctx)
    (prog : List Stmt) (hok : ProgOK (some rank) C prog) (s : Sys)
    (hr : Reachable pol (initSys C (fun t => if t = 0 then prog else [])) s)
    (hns : ∀ t, s.thr t ≠ .spin ∧ s.thr t ≠ .abort) (hrun : s.running 0) :
    ¬ s.blocked pol 0 := by
  have hok' : ∀ t, ProgOK (some rank) C (if t = 0 then prog else []) := by
    intro t; split
    · exact hok
    · intro st hst; cases hst
  obtain ⟨H, hi⟩ := reachable_inv pol
    (initSys_inv (some rank) 1 C _ hok' fun t ht => if_neg (Nat.ne_of_gt ht)) hr
  obtain ⟨t, ⟨o, k, hc⟩, hnb⟩ := no_deadlock pol hi hns ⟨0, hrun⟩
  cases Nat.lt_one_iff.1 (hi.lt_of_running hc)
  exact hnb

-- @theorem C01_system_invariant_is_preserved : (the engine of the proof) the invariant — each thread's remaining code obeys the hold and rank discipline from its ghost state, and the ghost states are exactly the holders recorded in the lock table, waiting writers are really waiting — is preserved by every step of every thread under either policy
theorem C01_system_invariant_is_preserved (pol : Policy) (ro : RankOpt) (N : Nat) {s s' : Sys}
    {H : Tid → HG} (hi : SysInv ro N s H) (t : Tid) (hs : s.step pol t = some s') :
    ∃ H', SysInv ro N s' H' :=
  hi.step pol t hs

theorem parInit_toSys (C : Ctx) (progs : List (List Stmt)) :
    (parInit C progs).toSys = initSys C (fun t => progs.getD t []) := by
  simp only [ParSt.toSys, parInit, initSys]
  congr 1
  funext t
  simp only [List.getElem?_map, List.getD_eq_getElem?_getD]
  cases progs[t]? with
  | none => simp [program, Prog.bind, Prog.bindX]
  | some p => simp

-- @theorem C01_t2_replay_is_a_run_of_the_semantics : the executable replay of a T2 schedule (Model/Par.lean, the model side of the real-thread correspondence) is, turn by turn, a sequence of Sys.step transitions from the initial system: every state the replay visits is Reachable, so the system invariant and deadlock freedom proved for Reachable states apply to exactly the runs that are compared with the real threads
theorem C01_t2_replay_is_a_run_of_the_semantics (C : Ctx) (progs : List (List Stmt)) (sched : List Nat)
    (s' : ParSt) (h : (parInit C progs).runSched sched = .ok s') :
    Reachable .readerPref (initSys C (fun t => progs.getD t [])) s'.toSys := by
  rw [← parInit_toSys]
  exact runSched_reachable sched _ s' (by simp [parInit]) h

-- @theorem C01_t2_replay_never_ends_in_deadlock : consequently, for programs obeying the rank discipline, no replayed schedule of any length ends in a state where some thread has work left and every such thread waits for a lock: a `deadlock` transcript of the real threads can never be matched by the model
theorem C01_t2_replay_never_ends_in_deadlock (rank : LockId → Nat) (C : Ctx) (progs : List (List Stmt))
    (hok : ∀ p ∈ progs, ProgOK (some rank) C p) (sched : List Nat) (s' : ParSt)
    (h : (parInit C progs).runSched sched = .ok s')
    (hns : ∀ t, s'.toSys.thr t ≠ .spin ∧ s'.toSys.thr t ≠ .abort) (hrun : ∃ t, s'.toSys.running t) :
    ∃ t, s'.toSys.running t ∧ ¬ s'.toSys.blocked .readerPref t := by
  have hok' : ∀ t, ProgOK (some rank) C (progs.getD t []) := by
    intro t
    simp only [List.getD_eq_getElem?_getD]
    cases hp : progs[t]? with
    | none => intro st hst; cases hst
    | some p => exact hok p (List.mem_of_getElem? hp)
  have hidle : ∀ t, progs.length ≤ t → progs.getD t [] = [] := by
    intro t ht
    simp [List.getD_eq_getElem?_getD, List.getElem?_eq_none ht]
  exact C01_deadlock_free .readerPref rank progs.length C _ hok' hidle _
    (C01_t2_replay_is_a_run_of_the_semantics C progs sched s' h) hns hrun

/-! non-vacuity of `C01_rank_discipline_holds_for_valid_flat_collections`: three collections over the same
two locks, listed differently, are valid and flat -/
def exC01 : Ctx :=
  { W := { addr := fun x => x }
    colls := [ .boxed (.seq [.mutex 0, .mutex 1]), .refc (.seq [.mutex 1, .mutex 0]),
               .retry (.seq [.mutex 1, .mutex 0]) ] }
example : ∀ c : Nat, c < 3 → Valid exC01.W (exC01.shape c) ∧ noOwned (exC01.shape c) = true := by
  intro c hc
  match c, hc with
  | 0, _ => exact ⟨by simp [exC01, Ctx.shape, Valid, ValidL, getPtrs, getPtrsL], rfl⟩
  | 1, _ => exact ⟨by simp [exC01, Ctx.shape, Valid, ValidL, getPtrs, getPtrsL], rfl⟩
  | 2, _ => exact ⟨by simp [exC01, Ctx.shape, Valid, ValidL, getPtrs, getPtrsL], rfl⟩

/-! non-vacuity for owned groups: a boxed collection over an owned group (at address 7, listing
`[m2, m1]`) and a plain lock `m0`; rank = 4 · unit address + position -/
def exOwned : Shape := .boxed (.seq [.owned 7 (.seq [.mutex 2, .mutex 1]), .mutex 0])
def exRank : LockId → Nat := fun x => if x = 0 then 0 else if x = 2 then 28 else 29
example : FitOut { addr := fun x => x } 4 exRank exOwned ∧ Valid { addr := fun x => x } exOwned := by
  refine ⟨?_, ?_⟩
  · simp [exOwned, FitOut, FitOutL, FitInside, FitInsideL, getPtrs, getPtrsL, exRank]
  · simp [exOwned, Valid, ValidL, getPtrs, getPtrsL]

end HLV
