/-
  C09 — a retrying collection never waits while holding, and still completes.
-/
import HLV.Logic.Order
import HLV.Logic.SoloAcq
import HLV.Logic.RetryOwned
import HLV.Model.Seq
namespace HLV

/-- The acquisition obeys the rank discipline for every rank function the retrying collection is
`ShapeOK` under: whatever is held when it blocks on `x` ranks below `x`. The two theorems below
choose the rank. -/
theorem retry_held_below (n : Nat) (W : World) (s : Shape) (m : Mode) (rank : LockId → Nat)
    (hok : ShapeOK (some rank) W (.retry s))
    {tr₁ tr₂ : List (Op × Resp)} {m' : Mode} {x : LockId} {r : Resp} {out : Outcome Unit Unit}
    (hp : Path ((toRaw W (.retry s)).acq m) (tr₁ ++ (.acq m' true x, r) :: tr₂) out)
    (ha : Admissible (HoldSpec n none) {} tr₁) (y : LockId) (my : Mode)
    (h : 0 < (ghostAfter (HoldSpec n none) {} tr₁).held y my) : rank y < rank x := by
  have hwp : wp (HoldSpec n (some rank)) ((toRaw W (.retry s)).acq m)
      (fun _ _ => True) (fun _ _ => True) {} :=
    (toRaw_isLock (n := n) W (.retry s) rfl hok).acq m {} _ _ rfl (LowFp_empty _ _) trivial
      (fun _ _ _ _ => trivial)
  have hpre := (wp_sound (HoldSpec n (some rank)) hwp hp).1.at _ (admissible_ro n none (some rank) {} tr₁ ha)
  rw [ghostAfter_ro n (some rank) none] at hpre
  exact hpre.2 y my h

-- @theorem C09_retry_blocks_only_empty_handed : while acquiring a retrying collection of leaf locks (any size, arrangement, nesting of boxed/ref/retry/poisonable members, either mode), in every round and on every answer sequence with up to n faults, each blocking raw acquisition is issued while the thread holds no lock at all
theorem C09_retry_blocks_only_empty_handed (n : Nat) (W : World) (s : Shape)
    (hno : noOwned s = true) (m : Mode)
    {tr₁ tr₂ : List (Op × Resp)} {m' : Mode} {x : LockId} {r : Resp} {out : Outcome Unit Unit}
    (hp : Path ((toRaw W (.retry s)).acq m) (tr₁ ++ (.acq m' true x, r) :: tr₂) out)
    (ha : Admissible (HoldSpec n none) {} tr₁) :
    ∀ y my, (ghostAfter (HoldSpec n none) {} tr₁).held y my = 0 := by
  -- with `x` alone at the bottom rank nothing ranks below `x`
  intro y my
  refine Nat.eq_zero_of_not_pos fun h => ?_
  have := retry_held_below n W s m (fun y => if y = x then 0 else 1) (ptrsOK_noOwned _ W s hno) hp ha y my h
  simp at this

-- @theorem C09_retry_blocks_holding_only_earlier_leaves_of_the_same_unit : the general form, owned groups allowed (any members, any nesting): whenever the acquisition of a retrying collection with distinct leaves blocks on a lock x, everything the thread holds is a leaf of the very member (unit) x belongs to and comes before x in that unit's own order — for a member that is a leaf, nothing; for an owned group, only its earlier leaves: finding D17 is the only way the first sentence of C09 can fail, and nothing taken from ANOTHER member is ever held while waiting
theorem C09_retry_blocks_holding_only_earlier_leaves_of_the_same_unit (n : Nat) (W : World) (s : Shape) (m : Mode)
    (hnd : (declLeaves (.retry s)).Nodup)
    {tr₁ tr₂ : List (Op × Resp)} {m' : Mode} {x : LockId} {r : Resp} {out : Outcome Unit Unit}
    (hp : Path ((toRaw W (.retry s)).acq m) (tr₁ ++ (.acq m' true x, r) :: tr₂) out)
    (ha : Admissible (HoldSpec n none) {} tr₁)
    (p : Ptr) (hpm : p ∈ getPtrs W s) (hx : x ∈ p.leaves) :
    ∀ y my, 0 < (ghostAfter (HoldSpec n none) {} tr₁).held y my →
      y ∈ p.leaves ∧ p.leaves.idxOf y < p.leaves.idxOf x := by
  have hn : ((getPtrs W s).flatMap (·.leaves)).Nodup := by
    have := shapeFp_ids_nodup W (.retry s) .excl rfl hnd
    simp only [shapeFp, ptrsM_fp, Fp.ids] at this
    rwa [flatMap_ids .excl (getPtrs W s) (fun q _ => rfl)] at this
  have hok : ShapeOK (some (rankAt ((getPtrs W s).flatMap (·.leaves)) p.leaves)) W (.retry s) :=
    ptrsOK_of_fitInside s (fitInside_of_unitsIncr W _ s (unitsIncr_rankAt W s hpm hn))
  exact fun y my h => rankAt_lt hx (retry_held_below n W s m _ hok hp ha y my h)

/-- non-vacuity: the shape of finding D17 meets the hypotheses, with `x` the second leaf of the owned group -/
example :
    let W : World := { addr := fun x => 2 * x }
    let s : Shape := .seq [.owned 1 (.seq [.mutex 0, .mutex 1]), .mutex 2]
    (declLeaves (.retry s)).Nodup ∧ ∃ p ∈ getPtrs W s, 1 ∈ p.leaves ∧ p.leaves = [0, 1] := by
  intro W s
  exact ⟨by decide, _, List.mem_cons_self, by decide, rfl⟩

-- @theorem C09_retry_contract : the retrying acquisition of any members that are locks (leaves, nested collections, owned groups) returns with exactly all of them held, or unwinds holding what it held before; its try variant is all-or-nothing; for any fuel (number of rounds)
theorem C09_retry_contract (n : Nat) (fuel : Nat) (ms : Members) (hm : ms.Ok n none) :
    IsLock n none (retryLock fuel ms.locks) ms.fp :=
  isLock_retry fuel ms hm

/-! ### completion (deterministic reading: the thread alone against a frozen table) -/

/-- `det_retry_acq` for the retrying collection of a shape, in a quiescent table -/
theorem retry_acq_quiescent (pol : Policy) (t : Tid) (W : World) (f : Nat)
    (hf : W.fuel = f + 2) (s : Shape) (m : Mode) (e : Env) (hnd : (declLeaves (.retry s)).Nodup)
    (hq : Quiescent e) :
    ((holdsOf (.retry s) m).all (freeFor e) = true →
      solo pol t ((toRaw W (.retry s)).acq m) e = .done () (takeAll t (shapeFp W (.retry s) m) e)) ∧
    ((holdsOf (.retry s) m).all (freeFor e) = false →
      ∃ p ∈ getPtrs W s, StuckWith pol t e (p.fp m) (solo pol t ((toRaw W (.retry s)).acq m) e)) := by
  have h := det_retry_acq (pol := pol) (t := t) f (ptrsM (getPtrs W s)) (getPtrs_det W s) (getPtrs_detA W s)
    m e (quiescent_notWaiting t e hq) (shapeFp_ids_nodup W (.retry s) m rfl hnd) (calm_of_quiescent e hq _)
  have hrun : (toRaw W (.retry s)).acq m = retryAcq m (f + 2) (Members.locks (ptrsM (getPtrs W s))) := by
    simp [toRaw, toRaw?, retryLock, hf, ptrsM_locks]
  rw [hrun, ← all_avail_quiescent pol W (.retry s) m e rfl hq]
  refine ⟨fun hfree => h.1 (List.all_eq_true.1 hfree), fun hbusy => ?_⟩
  obtain ⟨l, hl, hst⟩ := h.2 (all_eq_false_iff.1 hbusy)
  obtain ⟨p, hp, rfl⟩ := List.mem_map.1 hl
  exact ⟨p, hp, hst⟩

-- @theorem C09_retry_completes_once_the_holders_have_released : run alone against a quiescent table (the contending holders have released or hold other locks) in which every leaf of the retrying collection is free for the requested hold, the blocking acquisition of a retrying collection of ANY members (leaves, nested boxed/ref/retry/poisonable, owned groups), any size and arrangement, completes — in its first round — with exactly its leaves taken; two rounds of the loop suffice (fuel ≥ 2)
theorem C09_retry_completes_once_the_holders_have_released (pol : Policy) (t : Tid) (W : World) (f : Nat)
    (hf : W.fuel = f + 2) (s : Shape) (m : Mode) (e : Env) (hnd : (declLeaves (.retry s)).Nodup)
    (hq : Quiescent e) (hfree : (holdsOf (.retry s) m).all (freeFor e) = true) :
    solo pol t ((toRaw W (.retry s)).acq m) e = .done () (takeAll t (shapeFp W (.retry s) m) e) :=
  (retry_acq_quiescent pol t W f hf s m e hnd hq).1 hfree

-- @theorem C09_retry_waits_holding_only_a_prefix_of_the_blocked_member : the same with owned groups allowed (any members): run alone against a quiescent table in which some leaf is not free, the blocking acquisition of a retrying collection ends up waiting, and at that point the table is the initial one plus a PROPER PREFIX of the footprint of ONE member — the member it is blocked inside (nothing at all when that member is a leaf; the earlier leaves of the group when it is an owned group, finding D17); every other member has been released
theorem C09_retry_waits_holding_only_a_prefix_of_the_blocked_member (pol : Policy) (t : Tid) (W : World) (f : Nat)
    (hf : W.fuel = f + 2) (s : Shape) (m : Mode) (e : Env)
    (hnd : (declLeaves (.retry s)).Nodup) (hq : Quiescent e)
    (hbusy : (holdsOf (.retry s) m).all (freeFor e) = false) :
    ∃ p ∈ getPtrs W s, StuckWith pol t e (p.fp m) (solo pol t ((toRaw W (.retry s)).acq m) e) :=
  (retry_acq_quiescent pol t W f hf s m e hnd hq).2 hbusy

-- @theorem C09_retry_waits_empty_handed_with_the_table_untouched : run alone against a quiescent table in which some leaf is NOT free (held by a frozen other thread), the blocking acquisition of a retrying collection whose members are leaves (any nesting of boxed/ref/retry/poisonable) ends up waiting with every hold, flag and datum of the table exactly as before the call — everything it had taken in the first round has been released before it waits
theorem C09_retry_waits_empty_handed_with_the_table_untouched (pol : Policy) (t : Tid) (W : World) (f : Nat)
    (hf : W.fuel = f + 2) (s : Shape) (hno : noOwned s = true) (m : Mode) (e : Env)
    (hnd : (declLeaves (.retry s)).Nodup) (hq : Quiescent e)
    (hbusy : (holdsOf (.retry s) m).all (freeFor e) = false) :
    ∃ e', solo pol t ((toRaw W (.retry s)).acq m) e = .stuck e' ∧ SameHolds e e' := by
  obtain ⟨p, hp, pre, e', -, h2, -, h4, h5⟩ :=
    C09_retry_waits_holding_only_a_prefix_of_the_blocked_member pol t W f hf s m e hnd hq hbusy
  -- the member is a leaf: its footprint is one hold, so the proper prefix is empty
  obtain ⟨x, -, hfp⟩ := getPtrs_leaves W s hno p hp
  obtain ⟨m', hm'⟩ := hfp m
  rw [hm', List.length_singleton, Nat.lt_one_iff, List.length_eq_zero_iff] at h2
  subst h2
  exact ⟨e', h4, h5⟩

-- @theorem C09_retry_completes_exactly_when_every_leaf_is_free : the two directions together, for ANY members (owned groups included): run alone against a quiescent table, the blocking acquisition of a retrying collection completes if and only if every one of its leaves is free for the requested hold — it never "completes" over a busy leaf, never spins, aborts or unwinds, and is never left waiting when everything is free; the completed table is the old one plus exactly its footprint
theorem C09_retry_completes_exactly_when_every_leaf_is_free (pol : Policy) (t : Tid) (W : World) (f : Nat)
    (hf : W.fuel = f + 2) (s : Shape) (m : Mode) (e : Env)
    (hnd : (declLeaves (.retry s)).Nodup) (hq : Quiescent e) :
    ((holdsOf (.retry s) m).all (freeFor e) = true ↔
      solo pol t ((toRaw W (.retry s)).acq m) e = .done () (takeAll t (shapeFp W (.retry s) m) e)) ∧
    ((holdsOf (.retry s) m).all (freeFor e) = false ↔
      ∃ e', solo pol t ((toRaw W (.retry s)).acq m) e = .stuck e') := by
  have hT := C09_retry_completes_once_the_holders_have_released pol t W f hf s m e hnd hq
  have hF := C09_retry_waits_holding_only_a_prefix_of_the_blocked_member pol t W f hf s m e hnd hq
  -- a run ends in one way only
  cases hb : (holdsOf (.retry s) m).all (freeFor e) with
  | true =>
    have h1 := hT hb
    exact ⟨⟨fun _ => h1, fun _ => rfl⟩, ⟨nofun, fun ⟨e', he'⟩ => nomatch h1.symm.trans he'⟩⟩
  | false =>
    obtain ⟨p, _, pre, e', _, _, _, h4, _⟩ := hF hb
    exact ⟨⟨nofun, fun h => nomatch h4.symm.trans h⟩, ⟨fun _ => ⟨e', h4⟩, fun _ => rfl⟩⟩

-- @theorem C09_blocking_and_try_agree_in_quiescent_states : the blocking acquisition of a retrying collection and its try variant decide the same question: run alone against the same quiescent table, try returns true if and only if the blocking call completes, and then both leave the SAME table (the old one plus exactly the footprint); when try returns false the table is untouched and the blocking call is the one that waits
theorem C09_blocking_and_try_agree_in_quiescent_states (pol : Policy) (t : Tid) (W : World) (f : Nat)
    (hf : W.fuel = f + 2) (s : Shape) (m : Mode) (e : Env) (hl : lockable (.retry s) = true)
    (hnd : (declLeaves (.retry s)).Nodup) (hq : Quiescent e) :
    (solo pol t ((toRaw W (.retry s)).try_ m) e = .done true (takeAll t (shapeFp W (.retry s) m) e) ∧
      solo pol t ((toRaw W (.retry s)).acq m) e = .done () (takeAll t (shapeFp W (.retry s) m) e)) ∨
    (solo pol t ((toRaw W (.retry s)).try_ m) e = .done false e ∧
      ∃ e', solo pol t ((toRaw W (.retry s)).acq m) e = .stuck e') := by
  have hx := C09_retry_completes_exactly_when_every_leaf_is_free pol t W f hf s m e hnd hq
  rw [toRaw_try_quiescent pol t W (.retry s) m e hl hnd hq]
  cases hb : (holdsOf (.retry s) m).all (freeFor e) with
  | true => exact .inl ⟨rfl, hx.1.1 hb⟩
  | false => exact .inr ⟨rfl, hx.2.1 hb⟩

/-- non-vacuity: three leaves, the middle one write-held by thread 7; the hypotheses of both
theorems are met by concrete tables -/
example :
    let s : Shape := .seq [.rwlock 1, .boxed (.seq [.rwlock 2, .rwlock 3])]
    let busy : Env := { locks := fun x => if x = 2 then { writer := some 7 } else {} }
    let free : Env := {}
    noOwned s = true ∧ (declLeaves (.retry s)).Nodup ∧ Quiescent busy ∧ Quiescent free ∧
    (holdsOf (.retry s) .excl).all (freeFor busy) = false ∧
    (holdsOf (.retry s) .excl).all (freeFor free) = true := by
  intro s busy free
  refine ⟨rfl, by decide, ?_, ?_, by decide, by decide⟩
  · intro x; by_cases hx : x = 2 <;> simp [busy, hx]
  · intro x; exact ⟨rfl, rfl⟩

/-- `hl` in `C09_blocking_and_try_agree_in_quiescent_states`, for the same shape (it holds of every
retrying collection) -/
example : lockable (.retry (.seq [.rwlock 1, .boxed (.seq [.rwlock 2, .rwlock 3])])) = true := by decide

/-! ### finding D17, reproduced on the model (the model mirrors the code here)

`hno : noOwned s` in `C09_retry_blocks_only_empty_handed` and
`C09_retry_waits_empty_handed_with_the_table_untouched` is forced by the code: an `OwnedLockCollection` is ONE lock
for the retrying algorithm, and its `raw_write` takes its members in order, blocking. When the group
is the member the algorithm waits on, and a later leaf of the group is busy (another thread is in
the middle of releasing the same group), the thread waits for that leaf while it holds the earlier
leaves of the group. No cycle can come of it (the members of an owned group are reachable only
through the group), but the first sentence of C09 is false of it, read leaf by leaf. -/

def d17Ctx : Ctx :=
  { W := { addr := fun x => 2 * x }, colls := [.retry (.seq [.owned 1 (.seq [.mutex 0, .mutex 1]), .mutex 2])] }
def d17Prog : List Stmt :=
  [.get, .ses { coll := 0, api := .lock, mode := .excl, key := .owned, body := [], exit := .drop }]
/-- leaf 1 (the second member of the owned group) is held by the other thread, leaf 0 is free -/
def d17Env : Env := { locks := fun x => if x = 1 then { writer := some other } else {} }

-- @theorem C09_finding_D17_owned_group_member_waits_holding : PARTIAL/finding — a retrying collection with an owned group of two leaves as a member: with the second leaf busy, the acquisition takes leaf 0 (blocking), then waits for leaf 1 while holding leaf 0 — the environment has to release leaf 1 before it goes on (recorded as D17; the theorems above exclude owned groups by hypothesis)
theorem C09_finding_D17_owned_group_member_waits_holding :
    (((seqRun [] 80 { env := d17Env } (program d17Ctx d17Prog {})).2.trace.reverse.drop 2).take 3) =
      [.raw .lockX 0 .ok false, .envRel 1, .raw .lockX 1 .ok false] := by decide

end HLV
