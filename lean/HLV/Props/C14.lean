/-
  C14 — the type system enforces the one-key discipline.
  Table theorems over `HLV.Generated.Facts` (regenerated from /repo/src on every run): the
  quantifier is the finite table of items the source defines now; `decide` evaluates the rule
  in the kernel. A recorded finding is a literal here and in known_findings.json.
-/
import HLV.Static.Rules
import HLV.Props.C06
namespace HLV
open HLV.Static HLV.Gen


-- @theorem C14_translator_read_every_item : the translator handled every item of every module reachable from lib.rs (no unparsed file, no unknown item macro)
theorem C14_translator_read_every_item : translatorErrors = [] := by decide +kernel

-- @theorem C14_keys_and_guards_not_clone_copy_default_send : neither ThreadKey nor any struct that stores a ThreadKey (the guards handed to users) implements or derives Clone, Copy, Default or Send
theorem C14_keys_and_guards_not_clone_copy_default_send : c14_keyLikeImpls = [] := by decide +kernel

-- @theorem C14_hold_tokens_cannot_be_duplicated : no struct whose Drop releases a raw lock (MutexRef, RwLockReadRef, RwLockWriteRef), and no struct containing one by value, implements or derives Clone, Copy or Default, and the set of hold tokens found in the source is non-empty (the rule is not vacuous)
theorem C14_hold_tokens_cannot_be_duplicated : c14_holdTokenImpls = [] ∧ holdTokens.length ≥ 3 := by decide +kernel

-- @theorem C14_key_fields_private_and_key_not_send : every field holding a key is private, ThreadKey's own fields are private, and ThreadKey contains PhantomData<*const ()> (so it and everything containing it is !Send by the auto-trait rules)
theorem C14_key_fields_private_and_key_not_send : c14_keyFields = [] := by decide +kernel

-- @theorem C14_keyable_is_sealed : Keyable is an unsafe trait whose supertrait Sealed lives in a private module, and both are implemented exactly for ThreadKey and &mut ThreadKey
theorem C14_keyable_is_sealed : c14_keyableSealing = [] := by decide +kernel

-- @theorem C14_acquiring_functions_take_a_key : every safe public inherent function that calls an acquiring RawLock method or a scoped helper has a parameter of type ThreadKey (by value), impl Keyable, or a generic bounded by Keyable
theorem C14_acquiring_functions_take_a_key : c14_acquiringWithoutKey = [] := by decide +kernel

-- @theorem C14_keys_never_lent_out_or_conjured : no function returns a reference to a ThreadKey, and a public function returns a ThreadKey by value only if it took a key or a key-holding guard by value (ThreadKey::get is the only source)
theorem C14_keys_never_lent_out_or_conjured : c14_keyLeaks = [] := by decide +kernel

-- @theorem C14_raw_lock_not_reachable_from_safe_code : no safe public function of a type with a raw-lock field returns a reference to the raw lock (lock_api's lock()/try_lock() are safe functions)
theorem C14_raw_lock_not_reachable_from_safe_code : c14_rawAccessors = [] := by decide +kernel

/-- finding D6: the guard of `Vec<T>` / `Box<[T]>` collections is `Box<[T::Guard]>`, which is
`Default`; `mem::take(&mut *guard)` moves the holds out and `unlock(guard)` then returns the
key while the locks are still held -/
def recordedC14_holdExtraction : List (Nat × Nat) :=
  [(Sym.Box, Sym.Guard), (Sym.Vec, Sym.Guard), (Sym.Box, Sym.ReadGuard), (Sym.Vec, Sym.ReadGuard)]

-- @theorem C14_no_hold_extraction_partial : PARTIAL — the only Lockable/Sharable guard types out of which holds can be moved through &mut are the recorded ones (finding D6: Box<[Guard]> for Vec<T> and Box<[T]>)
theorem C14_no_hold_extraction_partial :
    c14_holdExtraction.all (fun x => recordedC14_holdExtraction.contains x) = true := by decide +kernel

-- @theorem C14_keyless_holds_only_in_debug_partial : PARTIAL — the only code that takes a lock without a key and then runs user code while holding it is the recorded one (finding D13: Debug::fmt of Mutex and RwLock, to which the collections and Poisonable forward); the set is non-empty on the current tree
theorem C14_keyless_holds_only_in_debug_partial :
    c14_debugHoldsWithoutKey.all (fun x => [(Sym.Mutex, Sym.fmt), (Sym.RwLock, Sym.fmt)].contains x) = true := by
  decide +kernel

-- @theorem C14_discipline_gives_at_most_one_key : with keys unforgeable, uncopyable and consumed by every acquiring call (the table theorems above), client histories are the linear token histories of the model, for which the key refinement holds (at most one token; flag set iff a token exists; get succeeds iff none) — this is C06's theorem, restated here as the consequence
theorem C14_discipline_gives_at_most_one_key (C : Ctx) (prog : List Stmt) :
    wp KeySpec (program C prog {}) (fun u' g' => KeyInv u' g') (fun (_ : Unit) (_ : KG) => True) {} :=
  C06_key_refinement C prog

end HLV
