/-
  C02 — mutual exclusion and per-lock data continuity under guards and closures.
-/
import HLV.Props.C01
namespace HLV

/-- exclusion in the lock table: a writer excludes everybody else -/
def Exclusive (e : Env) : Prop := ∀ x, (e.locks x).writer.isSome → (e.locks x).readers = []

/-- no step of the table puts a writer beside readers (whether or not a release is by a holder) -/
theorem Exclusive.step (pol : Policy) {e : Env} (t : Tid) (o : Op) (fault : Bool) (hex : Exclusive e) :
    Exclusive (e.step pol t o fault).env := by
  intro x
  have h := Env.step_locks pol e t o fault x
  generalize (e.step pol t o fault).env.locks x = s' at h ⊢
  cases h with
  | take m b _ _ _ hg =>
    cases m with
    | excl => intro _; exact show (e.locks x).readers = [] from LockSt.grantable_excl_readers hg
    | shared =>
      intro hw
      have hw : (e.locks x).writer.isSome = true := hw
      rw [LockSt.grantable_writer hg] at hw
      cases hw
  | release m =>
    cases m with
    | excl => intro hw; cases hw
    | shared => intro hw; show (e.locks x).readers.erase t = []; rw [hex x hw]; rfl
  | _ => exact hex x

-- @theorem C02_table_grants_preserve_exclusion : whatever any thread does (any operation, either policy, faulty or not), the table never has a writer together with readers: exclusive and shared holds of one lock never overlap, and there is at most one writer (a field, not a list)
theorem C02_table_grants_preserve_exclusion (pol : Policy) (e : Env) (t : Tid) (o : Op) (fault : Bool)
    (hex : Exclusive e) (hrel : ∀ m x, o = .rel m x → (e.locks x).holds t m = true) :
    Exclusive (e.step pol t o fault).env :=
  hex.step pol t o fault

-- @theorem C02_sections_only_while_held : in every reachable state of any N-thread system of well-typed programs — ANY lockable collections incl. owned groups and retrying collections, no rank discipline needed — (either policy), a thread whose next step is a write through a guard or closure argument is the lock's writer, and a thread about to read is its writer or one of its readers
theorem C02_sections_only_while_held (pol : Policy) (N : Nat) (C : Ctx)
    (progs : Tid → List Stmt) (hok : ∀ t, ProgOK none C (progs t))
    (hidle : ∀ t, N ≤ t → progs t = []) (s : Sys) (hr : Reachable pol (initSys C progs) s)
    (t : Tid) (x : LockId) (w : Option Nat) (k : Resp → Prog Unit Unit)
    (hc : s.thr t = .op (.access x w) k) :
    (w.isSome → (s.env.locks x).writer = some t) ∧
    (w = none → (s.env.locks x).writer = some t ∨ t ∈ (s.env.locks x).readers) := by
  obtain ⟨H, hi⟩ := reachable_inv pol (initSys_inv none N C progs hok hidle) hr
  have hcode := hi.code t
  rw [hc] at hcode
  have hpre := hcode.1
  constructor
  · intro hs
    obtain ⟨v, rfl⟩ := Option.isSome_iff_exists.1 hs
    exact hi.writer_of_held hpre
  · intro hn
    subst hn
    exact hpre.imp hi.writer_of_held hi.reader_of_held

-- @theorem C02_value_changes_only_in_exclusive_sections : the protected datum of a lock changes only by a write step of the thread that is its writer at that moment; every other step of every thread leaves it as it was — so each section observes exactly the value left by the most recent exclusive section of that same lock (no lost, torn or misrouted update)
theorem C02_value_changes_only_in_exclusive_sections (pol : Policy) (N : Nat)
    (C : Ctx) (progs : Tid → List Stmt) (hok : ∀ t, ProgOK none C (progs t))
    (hidle : ∀ t, N ≤ t → progs t = []) (s s' : Sys) (hr : Reachable pol (initSys C progs) s)
    (t : Tid) (hs : s.step pol t = some s') (x : LockId)
    (hne : (s'.env.locks x).value ≠ (s.env.locks x).value) :
    ∃ v k, s.thr t = .op (.access x (some v)) k ∧ (s.env.locks x).writer = some t ∧
      (s'.env.locks x).value = v := by
  obtain ⟨o, k, hc, henv⟩ := Sys.step_env hs
  rw [henv] at hne ⊢
  have h := Env.step_locks pol s.env t o false x
  generalize (s.env.step pol t o false).env.locks x = st' at h hne ⊢
  cases h with
  | value v ho =>
    subst ho
    exact ⟨v, k, hc, (C02_sections_only_while_held pol N C progs hok hidle s hr t x _ k hc).1 rfl, rfl⟩
  | same => exact absurd rfl hne
  | killed => exact absurd rfl hne
  | take m => exact absurd (LockSt.take_value ..) hne
  | release m => exact absurd (LockSt.release_value ..) hne
  | wait => exact absurd rfl hne

theorem reachable_exclusive {pol : Policy} {init s : Sys} (h0 : Exclusive init.env)
    (hr : Reachable pol init s) : Exclusive s.env := by
  induction hr with
  | init => exact h0
  | step t _ hs ih =>
    obtain ⟨o, k, -, henv⟩ := Sys.step_env hs
    rw [henv]
    exact ih.step pol t o false

-- @theorem C02_no_two_threads_in_conflicting_sections : in every reachable state of any N-thread system of well-typed programs (any collections, either policy, any interleaving), two different threads are never both about to use the datum of the same lock through their guards / closure arguments unless both only read: an exclusive section excludes every other section of that lock
theorem C02_no_two_threads_in_conflicting_sections (pol : Policy) (N : Nat) (C : Ctx)
    (progs : Tid → List Stmt) (hok : ∀ t, ProgOK none C (progs t))
    (hidle : ∀ t, N ≤ t → progs t = []) (s : Sys) (hr : Reachable pol (initSys C progs) s)
    (t u : Tid) (htu : t ≠ u) (x : LockId) (v : Nat) (w : Option Nat)
    (k k' : Resp → Prog Unit Unit)
    (ht : s.thr t = .op (.access x (some v)) k) (hu : s.thr u = .op (.access x w) k') : False := by
  have h1 := (C02_sections_only_while_held pol N C progs hok hidle s hr t x (some v) k ht).1 rfl
  have hex := reachable_exclusive (init := initSys C progs) (fun _ h => nomatch h) hr x (by rw [h1]; rfl)
  have h2 : (s.env.locks x).writer = some u ∨ u ∈ (s.env.locks x).readers := by
    have h := C02_sections_only_while_held pol N C progs hok hidle s hr u x w k' hu
    cases w with
    | some v' => exact .inl (h.1 rfl)
    | none => exact h.2 rfl
  rcases h2 with h2 | h2
  · rw [h1] at h2; exact htu (Option.some.inj h2)
  · rw [hex] at h2; cases h2

-- @theorem C02_guard_positions_are_the_declared_leaves : position i of a guard or closure argument of any shape is the i-th leaf in declared order (through every container, wrapper and nested collection), whatever order the locks were acquired in
theorem C02_guard_positions_are_the_declared_leaves (m : Mode) (S : Shape) :
    declLeaves S = (holdsOf S m).map (·.1) ∧ itemsFp m (guardItems S) = holdsOf S m :=
  ⟨declLeaves_eq m S, itemsFp_guardItems m S⟩

end HLV
