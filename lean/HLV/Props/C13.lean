/-
  C13 — try_* outcomes are exact in quiescent states.

  The deterministic reading (`Logic/Solo.lean`): thread `t` runs the collection's `raw_try_*`
  alone against the raw-lock table; other threads' holds are frozen in the table.
-/
import HLV.Logic.Solo
namespace HLV

-- @theorem C13_try_is_exact : with no concurrent activity (quiescent table, any holds of other threads frozen), raw_try_write / raw_try_read of any lockable shape (any kind, size, arrangement, nesting) with distinct leaves returns true if and only if every declared leaf is free for the requested hold (exclusive: held in no mode; shared: not held exclusively); on true the table is the old one with exactly the footprint taken, on false the table is EXACTLY the old one
theorem C13_try_is_exact (pol : Policy) (t : Tid) (W : World) (S : Shape) (m : Mode) (e : Env)
    (hl : lockable S = true) (hnd : (declLeaves S).Nodup) (hq : Quiescent e) :
    solo pol t ((toRaw W S).try_ m) e =
      if (holdsOf S m).all (freeFor e) then .done true (takeAll t (shapeFp W S m) e)
      else .done false e :=
  toRaw_try_quiescent pol t W S m e hl hnd hq

-- @theorem C13_outcome_independent_of_kind_arrangement_nesting : two lockable shapes with the same leaves (in any order, wrapped in any collection kinds, nested in any way) give the same try outcome on the same quiescent table, in either mode
theorem C13_outcome_independent_of_kind_arrangement_nesting (pol : Policy) (t : Tid) (W : World)
    (S S' : Shape) (m : Mode) (e : Env) (hl : lockable S = true) (hl' : lockable S' = true)
    (hnd : (declLeaves S).Nodup) (hsame : (holdsOf S m).Perm (holdsOf S' m)) (hq : Quiescent e) :
    (solo pol t ((toRaw W S).try_ m) e).result = (solo pol t ((toRaw W S').try_ m) e).result := by
  have hnd' : (declLeaves S').Nodup := by
    rw [declLeaves_eq m S'] ; rw [declLeaves_eq m S] at hnd
    exact (hsame.map (·.1)).nodup_iff.1 hnd
  rw [C13_try_is_exact pol t W S m e hl hnd hq, C13_try_is_exact pol t W S' m e hl' hnd' hq,
    hsame.all_eq]
  split <;> rfl

-- @theorem C13_failed_try_changes_nothing : a failed attempt leaves every lock's state (writer, readers, waiting list, killed flag, datum), the key flags and the poison flags exactly as they were
theorem C13_failed_try_changes_nothing (pol : Policy) (t : Tid) (W : World) (S : Shape) (m : Mode) (e : Env)
    (hl : lockable S = true) (hnd : (declLeaves S).Nodup) (hq : Quiescent e)
    (hf : (solo pol t ((toRaw W S).try_ m) e).result = some false) :
    (solo pol t ((toRaw W S).try_ m) e).env = e := by
  rw [C13_try_is_exact pol t W S m e hl hnd hq] at hf ⊢
  revert hf
  cases (holdsOf S m).all (freeFor e) with
  | false => exact fun _ => rfl
  | true => exact fun hf => nomatch hf

-- @theorem C13_success_takes_exactly_the_leaves : after a successful attempt every declared leaf is held by the thread in the requested mode (a Mutex always exclusively) on top of what was there, and every other lock is untouched
theorem C13_success_takes_exactly_the_leaves (pol : Policy) (t : Tid) (W : World) (S : Shape) (m : Mode) (e : Env)
    (hl : lockable S = true) (hnd : (declLeaves S).Nodup) (hq : Quiescent e)
    (hs : (solo pol t ((toRaw W S).try_ m) e).result = some true) :
    let e' := (solo pol t ((toRaw W S).try_ m) e).env
    (∀ p ∈ holdsOf S m, e'.locks p.1 = (e.locks p.1).take t p.2) ∧
    (∀ x, x ∉ declLeaves S → e'.locks x = e.locks x) ∧ e'.keyFlag = e.keyFlag ∧ e'.poison = e.poison := by
  rw [C13_try_is_exact pol t W S m e hl hnd hq] at hs ⊢
  revert hs
  cases (holdsOf S m).all (freeFor e) with
  | false => exact fun hs => nomatch hs
  | true =>
    have hn := shapeFp_ids_nodup W S m hl hnd
    have hp := shapeFp_perm W m S hl
    refine fun _ => ⟨fun p hp' => takeAll_locks_in _ _ _ hn (hp.mem_iff.2 hp'), fun x hx => ?_,
      takeAll_keyFlag _ _, takeAll_poison _ _⟩
    refine takeAll_locks_notin _ _ _ fun hmem => hx ?_
    rw [declLeaves_eq m S]
    exact (hp.map (·.1)).mem_iff.1 hmem

-- @theorem C13_success_is_undone_by_release : releasing (what dropping the guard does at raw level: raw_unlock_write / raw_unlock_read of the same shape) after a successful attempt restores the table EXACTLY
theorem C13_success_is_undone_by_release (pol : Policy) (t : Tid) (W : World) (S : Shape) (m : Mode) (e : Env)
    (hl : lockable S = true) (hnd : (declLeaves S).Nodup) (hq : Quiescent e)
    (hfree : (holdsOf S m).all (freeFor e) = true) :
    solo pol t (Prog.bind ((toRaw W S).try_ m) fun _ => (toRaw W S).rel m) e = .done () e := by
  rw [Prog.bind, solo_try_then pol t W S m e hl hnd hq, if_pos hfree, (toRaw_det W S hl).rel,
    relAll_takeAll_quiescent t W S m e hl hnd hq hfree (.refl _)]

/-! ### the API layer above the raw try: `try_lock` / `try_read` … `unlock(guard)`

The three theorems run one fixed session each. The session is closed code, so the proof executes
it: `solo_try_then` answers the raw try from the table, then each `solo_*` equation in the `simp only`
set runs the operation it is named after, and `relAll_takeAll_quiescent` gives the table back. -/

-- @theorem C13_try_lock_then_unlock_api_is_exact : at the API level (ThreadKey check, raw try, poison read, guard construction, LockGuard::unlock): with no concurrent activity, try_lock/try_read of any lockable shape with distinct leaves returns WouldBlock — table, flags and key count exactly as before — if some declared leaf is busy, and otherwise returns a guard (Ok or Err(poisoned) according to the flags) whose unlock hands the key back and leaves the whole table EXACTLY as it was before the call
theorem C13_try_lock_then_unlock_api_is_exact (pol : Policy) (t : Tid) (C : Ctx) (c : Nat) (m : Mode)
    (u : UserSt) (e : Env) (hout : C.outer = false) (hl : lockable (C.shape c) = true)
    (hnd : (declLeaves (C.shape c)).Nodup) (hq : Quiescent e) :
    solo pol t (guardSession C (C.shape c)
        { coll := c, api := .tryLock, mode := m, key := .owned, body := [], exit := .unlock } u) e =
      if (holdsOf (C.shape c) m).all (freeFor e) then
        .done (if (poisonIds (C.shape c)).any e.poison then mkOutPoisoned else mkOutOk,
               { u with keys := u.keys - 1 + 1 }) e
      else .done (mkOutWouldBlock, u) e := by
  simp only [guardSession, solo_mark, solo_try_then pol t C.W _ m e hl hnd hq]
  refine ite_congr rfl (fun hfree => ?_) fun _ => rfl
  -- the guard phase: read the flags, end of the call, empty body, unlock(guard)
  simp only [if_true, guardPhase, guardDropN, hout, Prog.bind, solo_bindX, solo_readPoison, takeAll_poison,
    Bool.false_or, bodySteps, solo_mark, solo, solo_guardDrop, Bool.false_eq_true, if_false, itemsFp_guardItems,
    relAll_takeAll_quiescent t C.W _ m e hl hnd hq hfree (shapeFp_perm C.W m _ hl).symm]

-- @theorem C13_try_lock_then_drop_api_is_exact : the same with the guard dropped instead of unlocked (the key is consumed with it): every lock and every poison flag exactly as before the call, the thread's key flag cleared
theorem C13_try_lock_then_drop_api_is_exact (pol : Policy) (t : Tid) (C : Ctx) (c : Nat) (m : Mode)
    (u : UserSt) (e : Env) (hout : C.outer = false) (hl : lockable (C.shape c) = true)
    (hnd : (declLeaves (C.shape c)).Nodup) (hq : Quiescent e) :
    solo pol t (guardSession C (C.shape c)
        { coll := c, api := .tryLock, mode := m, key := .owned, body := [], exit := .drop } u) e =
      if (holdsOf (C.shape c) m).all (freeFor e) then
        .done (if (poisonIds (C.shape c)).any e.poison then mkOutPoisoned else mkOutOk,
               { u with keys := u.keys - 1 }) (e.setKey t false)
      else .done (mkOutWouldBlock, u) e := by
  simp only [guardSession, solo_mark, solo_try_then pol t C.W _ m e hl hnd hq]
  refine ite_congr rfl (fun hfree => ?_) fun _ => rfl
  simp only [if_true, guardPhase, guardDropN, hout, Prog.bind, solo_bindX, solo_readPoison, takeAll_poison,
    Bool.false_or, bodySteps, solo_mark, solo_keyDrop, solo, solo_guardDrop, Bool.false_eq_true, if_false,
    itemsFp_guardItems, relAll_takeAll_quiescent t C.W _ m e hl hnd hq hfree (shapeFp_perm C.W m _ hl).symm]

-- @theorem C13_scoped_try_lock_api_is_exact : scoped_try_lock / scoped_try_read with a lent key and an empty closure, with no concurrent activity: WouldBlock with everything as before if some declared leaf is busy; otherwise the closure runs and the call returns with every lock and flag EXACTLY as before the call
theorem C13_scoped_try_lock_api_is_exact (pol : Policy) (t : Tid) (C : Ctx) (c : Nat) (m : Mode)
    (u : UserSt) (e : Env) (hl : lockable (C.shape c) = true)
    (hnd : (declLeaves (C.shape c)).Nodup) (hq : Quiescent e) :
    solo pol t (scopedSession C (C.shape c)
        { coll := c, api := .scopedTry, mode := m, key := .lent, body := [], exit := .ret } u) e =
      if (holdsOf (C.shape c) m).all (freeFor e) then
        .done (if (poisonIds (C.shape c)).any e.poison then mkOutPoisoned else mkOutOk, u) e
      else .done (mkOutWouldBlock, u) e := by
  simp only [scopedSession, scopedSessionWith, solo_mark, solo_try_then pol t C.W _ m e hl hnd hq]
  refine ite_congr rfl (fun hfree => ?_) fun _ => rfl
  simp only [if_true, scopedHeld, Prog.bind, solo_bindX, solo_readPoison, takeAll_poison, Bool.false_or, bodySteps,
    Prog.handle, Prog.bindX, solo_mark, solo, (toRaw_det C.W _ hl).rel, dropKeyIf,
    relAll_takeAll_quiescent t C.W _ m e hl hnd hq hfree (.refl _)]

/-- non-vacuity: a concrete table where one of three leaves is read-held by another thread
meets the hypotheses; by the theorem `try_read` of a boxed-in-retry nest succeeds and
`try_lock` fails -/
example :
    let W : World := { addr := fun x => 100 - x }
    let S : Shape := .retry (.seq [.boxed (.seq [.rwlock 1, .rwlock 2]), .rwlock 3])
    let e : Env := { locks := fun x => if x = 2 then { readers := [7] } else {} }
    (solo .readerPref 0 ((toRaw W S).try_ .shared) e).result = some true ∧
    (solo .readerPref 0 ((toRaw W S).try_ .excl) e).result = some false := by
  intro W S e
  have hq : Quiescent e := by
    intro x
    by_cases hx : x = 2 <;> simp [e, hx]
  have hnd : (declLeaves S).Nodup := by decide
  rw [C13_try_is_exact .readerPref 0 W S .shared e rfl hnd hq, C13_try_is_exact .readerPref 0 W S .excl e rfl hnd hq]
  have h1 : (holdsOf S .shared).all (freeFor e) = true := by decide
  have h2 : (holdsOf S .excl).all (freeFor e) = false := by decide
  rw [h1, h2]
  exact ⟨rfl, rfl⟩

end HLV
