import HLV.Model.Prog
import HLV.Model.Env
import HLV.Model.Algo
import HLV.Model.Shape
import HLV.Model.Api
import HLV.Model.Seq
import HLV.Model.Parse
import HLV.Logic.Wp
import HLV.Logic.Hold
import HLV.Logic.Contracts
import HLV.Model.Check
import HLV.Logic.Shapes
import HLV.Logic.Sessions
import HLV.Logic.Order
import HLV.Logic.OpsIn
import HLV.Logic.Key
import HLV.Logic.Poison
import HLV.Model.Conc
import HLV.Model.Own
import HLV.Model.CheckOwn
import HLV.Logic.Deadlock
import HLV.Logic.Solo
import HLV.Logic.SoloAcq
import HLV.Logic.ParSound
import HLV.Logic.Body
import HLV.Logic.RetryOwned
import HLV.Logic.Kill
